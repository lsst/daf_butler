import ButlerModel.Model.LR
import ButlerModel.Lemmas.List
/-! Why the LR driver of `Model/Parser.lean`, run over the LALR tables extracted from the live PLY parser, never gets
stuck (`run_documented`, from which `Props/C14.lean` has its `parse_outcomes`): the driver keeps a stack invariant (`Good`)
under shift and reduce, given the table checks of `Model/LR.lean` (`TablesOK`), and the semantic action of every production
accepts children of the shapes that invariant provides (`act_ok`). -/
namespace LR
open Parser Lexer

theorem lookup_mem {α : Type} {k : String} {v : α} {l : List (String × α)} (h : lookup k l = some v) : (k, v) ∈ l := by
  fun_induction lookup k l with
  | case1 => cases h
  | case2 k' _ r hk =>
    cases h; cases beq_iff_eq.mp hk
    exact List.mem_cons_self
  | case3 k' _ r _ ih => exact List.mem_cons_of_mem _ (ih h)

theorem actionOf_mem {st : Nat} {la : String} {k n : Nat} (h : actionOf st la = some (k, n)) :
    ∃ row, (st, row) ∈ Gen.Grammar.action ∧ (la, k, n) ∈ row := by
  unfold actionOf at h
  split at h
  · exact ⟨_, List.mem_of_find?_fst ‹_›, lookup_mem h⟩
  · cases h

theorem gotoOf_mem {st : Nat} {nt : String} {n : Nat} (h : gotoOf st nt = some n) :
    ∃ row, (st, row) ∈ Gen.Grammar.goto ∧ (nt, n) ∈ row := by
  unfold gotoOf at h
  split at h
  · exact ⟨_, List.mem_of_find?_fst ‹_›, lookup_mem h⟩
  · cases h

theorem defaultedOf_mem {st p : Nat} (h : defaultedOf st = some p) : (st, p) ∈ Gen.Grammar.defaulted := by
  obtain ⟨⟨st', p'⟩, hf, hp⟩ := Option.map_eq_some_iff.mp h
  cases hp
  exact List.mem_of_find?_fst hf

theorem prodInfo_eq_some {p : Nat} {text lhs : String} {len : Nat} {rhs : List String}
    (h : prodInfo p = some (text, lhs, len, rhs)) :
    Gen.Grammar.productions[p]? = some (text, lhs, len) ∧ Gen.Grammar.prodRhs[p]? = some rhs := by
  unfold prodInfo at h
  split at h
  · cases h
    exact ⟨‹_›, ‹_›⟩
  · cases h

theorem shift_edge {st : Nat} {la : String} {n : Nat} (h : actionOf st la = some (0, n)) : (st, la, n) ∈ edges := by
  obtain ⟨row, h1, h2⟩ := actionOf_mem h
  exact List.mem_append_left _ (List.mem_flatMap.mpr ⟨(st, row), h1, List.mem_filterMap.mpr ⟨(la, 0, n), h2, rfl⟩⟩)

theorem goto_edge {st : Nat} {nt : String} {n : Nat} (h : gotoOf st nt = some n) : (st, nt, n) ∈ edges := by
  obtain ⟨row, h1, h2⟩ := gotoOf_mem h
  exact List.mem_append_right _ (List.mem_flatMap.mpr ⟨(st, row), h1, List.mem_map.mpr ⟨(nt, n), h2, rfl⟩⟩)

/-! ### the stack invariant -/

/-- The two stacks of the driver describe a path of the automaton from the start state, and every
value has the shape the semantic actions give to the symbol under which it was pushed. -/
inductive Good : List Nat → List Val → Prop
  | base : Good [0] []
  | push {s s' : Nat} {ss : List Nat} {v : Val} {vs : List Val} {X : String} :
      Good (s' :: ss) vs → (s', X, s) ∈ edges → kindOK X v = true → Good (s :: s' :: ss) (v :: vs)

theorem Good.length {st : List Nat} {vs : List Val} (h : Good st vs) : st.length = vs.length + 1 := by
  induction h with
  | base => rfl
  | push _ _ _ ih => simp [ih]

theorem Good.head {st : List Nat} {vs : List Val} (h : Good st vs) : ∃ s ss, st = s :: ss := by
  cases h <;> exact ⟨_, _, rfl⟩

theorem Good.drop {st : List Nat} {vs : List Val} (h : Good st vs) (n : Nat) (hn : n ≤ vs.length) :
    Good (st.drop n) (vs.drop n) := by
  induction h generalizing n with
  | base => cases Nat.le_zero.mp hn; exact .base
  | push hg he hk ih =>
    cases n with
    | zero => exact .push hg he hk
    | succ n => exact ih n (Nat.le_of_succ_le_succ hn)

theorem sym_of_edge (hc : edgesConsistent = true) {s' s : Nat} {X : String} (h : (s', X, s) ∈ edges) : X = symOf s :=
  beq_iff_eq.mp (List.all_eq_true.mp hc _ h)

theorem pred_of_edge {s' s : Nat} {X : String} (h : (s', X, s) ∈ edges) : s' ∈ predsOf s :=
  List.mem_map.mpr ⟨(s', X, s), List.mem_filter.mpr ⟨h, beq_self_eq_true s⟩, rfl⟩

theorem preds_zero (h0 : startHasNoPred = true) : predsOf 0 = [] :=
  List.map_eq_nil_iff.mpr (List.filter_eq_nil_iff.mpr fun e he => by simpa using List.all_eq_true.mp h0 e he)

/-- Walking back `n` steps from the top of a good stack is one of the enumerated backward paths. -/
theorem Good.back_mem (h0 : startHasNoPred = true) {st : List Nat} {vs : List Val} (h : Good st vs) (n : Nat) {s : Nat}
    (hs : st.head? = some s) : (st.take (min n vs.length + 1), n - min n vs.length) ∈ back n s := by
  induction h generalizing n s with
  | base =>
    cases hs
    cases n with
    | zero => simp [back]
    | succ n => simp [back, preds_zero h0]
  | @push s s' ss v vs X hg he hk ih =>
    cases hs
    cases n with
    | zero => simp [back]
    | succ n =>
      have hp := pred_of_edge he
      have hne : (predsOf s).isEmpty = false := List.isEmpty_eq_false_iff_exists_mem.mpr ⟨s', hp⟩
      simp only [back, hne, Bool.false_eq_true, if_false]
      refine List.mem_flatMap.mpr ⟨s', hp, List.mem_map.mpr ⟨_, ih n rfl, ?_⟩⟩
      simp

/-- … and if no backward path of `n` steps from the top state stops early, the stack is that deep. -/
theorem Good.back_full (h0 : startHasNoPred = true) {st : List Nat} {vs : List Val} (h : Good st vs) {n s : Nat}
    (hs : st.head? = some s) (hmiss : ∀ pm ∈ back n s, pm.2 = 0) : n ≤ vs.length ∧ (st.take (n + 1), 0) ∈ back n s := by
  have hm := h.back_mem h0 n hs
  have hle : n ≤ vs.length := by have := hmiss _ hm; simp only at this; omega
  rw [Nat.min_eq_left hle, Nat.sub_self] at hm
  exact ⟨hle, hm⟩

theorem childrenOK_concat {X : String} {v : Val} (hv : kindOK X v = true) : ∀ {xs : List String} {vs : List Val},
    childrenOK xs vs = true → childrenOK (xs ++ [X]) (vs ++ [v]) = true
  | [], [], _ => by simp [childrenOK, hv]
  | _ :: _, _ :: _, h => by
    simp only [childrenOK, Bool.and_eq_true, List.cons_append] at h ⊢
    exact ⟨h.1, childrenOK_concat hv h.2⟩

/-- the top `n` values, oldest first as a semantic action gets them, have the shapes of the accessing symbols of the
top `n` states -/
theorem Good.kinds (hc : edgesConsistent = true) {st : List Nat} {vs : List Val} (h : Good st vs) (n : Nat)
    (hn : n ≤ vs.length) : childrenOK ((st.take n).map symOf).reverse (vs.take n).reverse = true := by
  induction h generalizing n with
  | base => cases Nat.le_zero.mp hn; rfl
  | push hg he hk ih =>
    cases n with
    | zero => rfl
    | succ n =>
      simp only [List.take_succ_cons, List.map_cons, List.reverse_cons]
      exact childrenOK_concat (sym_of_edge hc he ▸ hk) (ih n (Nat.le_of_succ_le_succ hn))

/-! ### the semantic actions accept children of the right shapes

`actI` looks at the constructors of its children only (and, for `POINT`, at the arguments), so it suffices to
run it once per production on a generic list of children of the right constructors.  The constructors a
production's children may have are computed from the grammar once (`prodKinds_eq`, the only place where
symbol names are compared), so that no proof below looks at a string. -/

def ActGood (lhs : String) (r : Except Err Val) : Prop :=
  (∃ v, r = .ok v ∧ kindOK lhs v = true) ∨ r = .error .value

def Kind.admits : Kind → Val → Bool
  | .tok, .tok _ | .node, .node _ | .list, .list _ | .none, .none | .nodeOrNone, .node _ | .nodeOrNone, .none => true
  | _, _ => false

theorem kindOK_eq (X : String) (v : Val) : kindOK X v = (kindOf X).admits v := rfl

/-- `Q` holds of every value a kind admits: one quantifier per constructor, over what it carries. -/
def ForallOf (Q : Val → Prop) : Kind → Prop
  | .tok => ∀ t, Q (.tok t)
  | .node => ∀ n, Q (.node n)
  | .list => ∀ l, Q (.list l)
  | .none => Q .none
  | .nodeOrNone => (∀ n, Q (.node n)) ∧ Q .none

theorem ForallOf.elim {Q : Val → Prop} : ∀ {k : Kind} {v : Val}, ForallOf Q k → k.admits v = true → Q v
  | .tok, .tok _, h, _ | .node, .node _, h, _ | .list, .list _, h, _ => h _
  | .none, .none, h, _ => h
  | .nodeOrNone, .node _, h, _ => h.1 _
  | .nodeOrNone, .none, h, _ => h.2

/-- `P` holds of every list of children of the given kinds. -/
def ForallShaped : List Kind → (List Val → Prop) → Prop
  | [], P => P []
  | k :: ks, P => ForallOf (fun v => ForallShaped ks fun c => P (v :: c)) k

theorem ForallShaped.elim : ∀ {xs : List String} {P : List Val → Prop} {c : List Val},
    ForallShaped (xs.map kindOf) P → childrenOK xs c = true → P c
  | [], _, [], h, _ => h
  | _ :: _, _, v :: _, h, hc => by
    simp only [childrenOK, Bool.and_eq_true, kindOK_eq] at hc
    exact (ForallOf.elim h hc.1).elim hc.2

/-- `Q i a` for every element `a` of the list, `i` its position counted from `n`; unfolds to a conjunction. -/
def AllFrom {α : Type} (Q : Nat → α → Prop) : Nat → List α → Prop
  | _, [] => True
  | n, a :: l => Q n a ∧ AllFrom Q (n + 1) l

theorem AllFrom.get {α : Type} {Q : Nat → α → Prop} : ∀ {l : List α} {n i : Nat} {a : α},
    AllFrom Q n l → l[i]? = some a → Q (n + i) a
  | _ :: _, _, 0, _, h, hi => by cases hi; exact h.1
  | _ :: _, n, i + 1, _, h, hi => by
    have := h.2.get (i := i) hi
    rwa [Nat.add_assoc, Nat.add_comm 1 i] at this

/-- kind of the result and kinds of the children of every production, in the order of the production table -/
def prodKinds : List (Kind × List Kind) :=
  (Gen.Grammar.productions.zip Gen.Grammar.prodRhs).map fun ((_, lhs, _), rhs) => (kindOf lhs, rhs.map kindOf)

theorem prodKinds_get {p : Nat} {text lhs : String} {len : Nat} {rhs : List String}
    (h : prodInfo p = some (text, lhs, len, rhs)) : prodKinds[p]? = some (kindOf lhs, rhs.map kindOf) := by
  have := List.getElem?_zip_eq_some (z := (_, _)).mpr (prodInfo_eq_some h)
  simp [prodKinds, this]

theorem prodKinds_eq : prodKinds = [
    (.nodeOrNone, [.nodeOrNone]), (.nodeOrNone, [.node]), (.nodeOrNone, [.none]), (.none, []),
    (.node, [.node, .tok, .node]), (.node, [.node, .tok, .node]), (.node, [.tok, .node]), (.node, [.node]),
    (.node, [.node, .tok, .node]), (.node, [.node, .tok, .node]), (.node, [.node, .tok, .node]),
    (.node, [.node, .tok, .node]), (.node, [.node, .tok, .node]), (.node, [.node, .tok, .node]),
    (.node, [.node, .tok, .node]), (.node, [.node]),
    (.node, [.node, .tok, .tok, .list, .tok]), (.node, [.node, .tok, .tok, .tok, .list, .tok]), (.node, [.node]),
    (.node, [.tok]), (.node, [.tok]),
    (.list, [.list, .tok, .node]), (.list, [.list, .tok, .node]), (.list, [.list, .tok, .node]),
    (.list, [.node]), (.list, [.node]), (.list, [.node]), (.node, [.tok]),
    (.node, [.node, .tok, .node]), (.node, [.node, .tok, .node]), (.node, [.node, .tok, .node]),
    (.node, [.node, .tok, .node]), (.node, [.node, .tok, .node]), (.node, [.node]),
    (.node, [.node]), (.node, [.node]), (.node, [.node]), (.node, [.node]),
    (.node, [.tok, .node]), (.node, [.tok, .node]), (.node, [.tok, .node, .tok]),
    (.node, [.tok, .node, .tok, .node, .tok]),
    (.node, [.tok]), (.node, [.tok, .tok]), (.node, [.tok, .tok]), (.node, [.tok]), (.node, [.tok]), (.node, [.tok]),
    (.node, [.tok, .tok, .list, .tok]), (.list, [.list, .tok, .node]), (.list, [.node]), (.list, [.none])] := by
  decide +kernel

/-- what `ActGood` asks of a result, in terms of the kind of the left-hand side -/
def ResultOK (k : Kind) (r : Except Err Val) : Prop :=
  (∃ v, r = .ok v ∧ k.admits v = true) ∨ r = .error .value

theorem point_ok (f x y : Tok) (args : List Node) :
    ResultOK .node (actI 48 [.tok f, .tok x, .list args, .tok y]) := by
  show ResultOK .node
    (if upper f.val == "POINT" then
      match args with
      | [a, b] => .ok (.node (.point a b))
      | _ => .error .value
    else .ok (.node (.func f.val args)))
  split
  · split
    · exact Or.inl ⟨_, rfl, rfl⟩
    · exact Or.inr rfl
  · exact Or.inl ⟨_, rfl, rfl⟩

theorem acts_ok : AllFrom (fun p (k, ks) => ForallShaped ks fun c => ResultOK k (actI p c)) 0 prodKinds := by
  rw [prodKinds_eq]
  simp only [AllFrom, ForallShaped, ForallOf, and_true]
  and_intros
  all_goals intros
  -- on generic children every action but that of `function_call` reduces to `.ok` of a constructor
  all_goals first | exact Or.inl ⟨_, rfl, rfl⟩ | exact point_ok _ _ _ _

/-- Every semantic action, applied to children whose shapes are those of the production's right-hand
side, yields a value of the shape of the left-hand side — or the `ValueError` of `POINT`. -/
theorem act_ok {p : Nat} {text lhs : String} {len : Nat} {rhs : List String}
    (h : prodInfo p = some (text, lhs, len, rhs)) (c : List Val) (hc : childrenOK rhs c = true) :
    ActGood lhs (actI p c) := by
  -- `ActGood lhs` is `ResultOK (kindOf lhs)` by unfolding (`kindOK_eq`)
  have : ResultOK (kindOf lhs) (actI (0 + p) c) := (acts_ok.get (prodKinds_get h)).elim hc
  rwa [Nat.zero_add] at this

/-! ### one reduction keeps the invariant -/

theorem reduce_good (hcons : edgesConsistent = true) (hstart : startHasNoPred = true)
    {ps : PState} {st p : Nat} (hG : Good ps.states ps.vals)
    (hs : ps.states.head? = some st) (hr : reduceOK st p = true) :
    (∃ ps', reduce ps p = .ok ps' ∧ Good ps'.states ps'.vals) ∨ reduce ps p = .error .value := by
  revert hr
  fun_cases reduceOK st p with
  | case1 => nofun
  | case2 text lhs len rhs hpi =>
    intro hr
    simp only [Bool.and_eq_true, beq_iff_eq, List.all_eq_true] at hr
    obtain ⟨hle, hmem⟩ := hG.back_full hstart hs fun pm hpm => (hr.2 pm hpm).1.1
    obtain ⟨⟨_, hsyms⟩, hgoto⟩ := hr.2 _ hmem
    simp only [List.take_take, Nat.min_eq_left (Nat.le_succ len)] at hsyms
    rw [List.getElem?_take_of_lt (Nat.lt_succ_self len)] at hgoto
    -- the origin state and its goto entry
    cases ho : ps.states[len]? with
    | none => simp [ho] at hgoto
    | some o =>
      simp only [ho] at hgoto
      obtain ⟨st', hg⟩ := Option.isSome_iff_exists.mp hgoto
      have hdrop : (ps.states.drop len).head? = some o := by rw [List.head?_drop, ho]
      -- the children have the shapes of the right-hand side
      have hk := hG.kinds hcons len hle
      rw [hsyms, List.reverse_reverse] at hk
      rcases act_ok hpi _ hk with ⟨v, hv, hkv⟩ | herr
      · refine Or.inl ⟨{ ps with states := st' :: ps.states.drop len, vals := v :: ps.vals.drop len }, ?_, ?_⟩
        · simp only [reduce, (prodInfo_eq_some hpi).1, hv, hdrop, hg]
        · have hgd := hG.drop len hle
          obtain ⟨_, hd⟩ := List.head?_eq_some_iff.mp hdrop
          rw [hd] at hgd ⊢
          exact .push hgd (goto_edge hg) hkv
      · exact Or.inr (by simp only [reduce, (prodInfo_eq_some hpi).1, herr])

/-! ### the lexer's fuel is enough -/

theorem span_snd_length {p : Char → Bool} : ∀ s : List Char, (span p s).2.length ≤ s.length
  | [] => Nat.le_refl 0
  | c :: cs => by
    simp only [span]
    split
    · exact Nat.le_succ_of_le (span_snd_length cs)
    · exact Nat.le_refl _

theorem step_skip_shorter {s r : List Char} : step s = .skip r → r.length < s.length := by
  fun_cases step s with
  | case1 => nofun
  | case2 c cs => rintro ⟨⟩; exact Nat.lt_succ_self _
  | case3 c cs _ hc =>
    -- `t_newline`: the head is a newline, so `span` takes at least that
    rintro ⟨⟩
    simp only [span, hc, if_true]
    exact Nat.lt_succ_of_le (span_snd_length cs)
  | case4 | case5 => split <;> nofun  -- a token or an error

theorem nextTok_error : ∀ (fuel : Nat) (s : List Char) (e : Err), s.length < fuel → nextTok fuel s = .error e → e = .lex := by
  intro fuel s e hlt h
  fun_induction nextTok fuel s with
  | case1 => exact absurd hlt (Nat.not_lt_zero _)
  | case2 | case5 => cases h
  | case3 => cases h; rfl
  | case4 fuel s r hr ih =>
    have := step_skip_shorter hr
    exact ih (by omega) h

/-! ### the driver never gets stuck -/

/-- What a caller of the parser may see: a value of the shape of `input` (a tree, or nothing for an
empty expression), one of the four user-facing errors, or — in the model only — exhausted fuel. -/
def Documented : Except Err Val → Prop
  | .ok v => kindOK "input" v = true
  | .error .lex => True
  | .error .parse => True
  | .error .eof => True
  | .error .value => True
  | .error (.internal m) => m = "parser fuel"

structure TablesOK : Prop where
  cons : edgesConsistent = true
  start : startHasNoPred = true
  reds : reducesOK = true
  acts : actionsOK = true

theorem reducePair_ok (T : TablesOK) {s p : Nat} (h : (s, p) ∈ reducePairs) : reduceOK s p = true :=
  List.all_eq_true.mp T.reds _ h

theorem action_row_ok (T : TablesOK) {st : Nat} {la : String} {k n : Nat} (h : actionOf st la = some (k, n)) :
    kindOf la = .tok ∧ (k = 0 → la ≠ "$end") ∧ (k = 1 → reduceOK st n = true) ∧ (k ≠ 0 → k ≠ 1 → acceptOK st = true) := by
  obtain ⟨row, h1, h2⟩ := actionOf_mem h
  have h4 := List.all_eq_true.mp (List.all_eq_true.mp T.acts _ h1) _ h2
  simp only [Bool.and_eq_true, Bool.or_eq_true, bne_iff_ne, ne_eq, beq_iff_eq, Bool.not_eq_true'] at h4
  obtain ⟨⟨⟨_, hk⟩, hend⟩, hacc⟩ := h4
  refine ⟨hk, fun hk0 => hend.resolve_left (not_not_intro hk0), ?_,
    fun h0 h1 => (hacc.resolve_left fun h => h.elim h0 h1)⟩
  rintro rfl
  refine reducePair_ok T (List.mem_eraseDups.mpr (List.mem_append_left _ ?_))
  exact List.mem_flatMap.mpr ⟨(st, row), h1, List.mem_filterMap.mpr ⟨(la, 1, n), h2, rfl⟩⟩

theorem defaulted_ok (T : TablesOK) {st p : Nat} (h : defaultedOf st = some p) : reduceOK st p = true :=
  reducePair_ok T (List.mem_eraseDups.mpr (List.mem_append_right _ (defaultedOf_mem h)))

theorem run_documented (T : TablesOK) : ∀ (fuel : Nat) (ps : PState),
    Good ps.states ps.vals → Documented (run fuel ps)
  | 0, _, _ => rfl
  | fuel + 1, ps, hG => by
    obtain ⟨st, ss, hss⟩ := hG.head
    have hst : ps.states.head? = some st := by rw [hss]; rfl
    unfold run
    simp only [hst]
    split
    next prodIdx hdef =>
      -- a defaulted state: reduce without lookahead
      have hdef := (Option.ite_none_right_eq_some.mp hdef).2
      rcases reduce_good T.cons T.start hG hst (defaulted_ok T hdef) with ⟨ps', h1, h2⟩ | h1
      · rw [h1]; exact run_documented T fuel ps' h2
      · rw [h1]; trivial
    next =>
      -- fetch the lookahead
      split
      next e hf =>
        split at hf
        · cases hf
        · cases nextTok_error _ _ e (Nat.lt_succ_self _) hf
          trivial
      next t rest _ =>
        split
        next =>
          -- no action: syntax error
          cases t <;> trivial
        next n hact =>
          -- shift
          obtain ⟨hk, hend, _, _⟩ := action_row_ok T hact
          apply run_documented T fuel
          rw [hss] at hG ⊢
          refine .push hG (shift_edge hact) ?_
          cases t with
          | none => exact absurd rfl (hend rfl)
          | some tok => simp only [kindOK, hk]
        next n hact =>
          -- reduce
          obtain ⟨_, _, hred, _⟩ := action_row_ok T hact
          rcases reduce_good (ps := { ps with la := some t, input := rest }) T.cons T.start hG hst (hred rfl)
            with ⟨ps', h1, h2⟩ | h1
          · rw [h1]; exact run_documented T fuel ps' h2
          · rw [h1]; trivial
        next k n hns hnr hact =>
          -- accept: only after `input`, whose value is on top
          have hao := (action_row_ok T hact).2.2.2 hns hnr
          simp only [acceptOK, Bool.and_eq_true, beq_iff_eq, List.all_eq_true] at hao
          obtain ⟨hle, hmem⟩ := hG.back_full T.start hst fun pm hpm => (hao pm hpm).1
          have hsym := (hao _ hmem).2
          have hk := hG.kinds T.cons 1 hle
          simp only [List.take_take, Nat.min_eq_left (Nat.le_succ 1)] at hsym
          rw [hsym] at hk
          cases hv : ps.vals with
          | nil => rw [hv] at hle; cases hle
          | cons v vs => simpa [hv, childrenOK, Documented] using hk

end LR
