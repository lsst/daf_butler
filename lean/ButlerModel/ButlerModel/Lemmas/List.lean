/-! Facts about lists in general that the property files need and core Lean does not have, kept out of those files so that they
speak of their models only: lists read as tables keyed by a function without repetitions (the entry a key finds, filters that do
not disturb a search), folds, a few congruences core states only for functions that agree everywhere, and lists in order
(`takeWhile`, `take`).  "A `foldl` keeps an invariant" is core's `List.foldlRecOn`. -/
namespace List
variable {α : Type u} {β : Type v} {γ : Type w}

theorem Pairwise.eq_of_key_eq {f : α → β} {l : List α} (h : l.Pairwise fun a b => f a ≠ f b) {a b : α}
    (ha : a ∈ l) (hb : b ∈ l) (hk : f a = f b) : a = b :=
  Pairwise.forall_of_forall_of_flip (R := fun a b => f a = f b → a = b) (fun _ _ _ => rfl)
    (h.imp fun hne hk => absurd hk hne) (h.imp fun hne hk => absurd hk.symm hne) ha hb hk

theorem Nodup.eq_of_key_eq {f : α → β} {l : List α} (h : (l.map f).Nodup) {a b : α}
    (ha : a ∈ l) (hb : b ∈ l) (hk : f a = f b) : a = b :=
  Pairwise.eq_of_key_eq (pairwise_map.mp h) ha hb hk

theorem Nodup.map_filter {f : α → β} {l : List α} (p : α → Bool) (h : (l.map f).Nodup) : ((l.filter p).map f).Nodup :=
  h.sublist (filter_sublist.map f)

theorem Nodup.contains_map_filter [BEq β] [LawfulBEq β] {f : α → β} {l : List α} (h : (l.map f).Nodup)
    (p : α → Bool) {a : α} (ha : a ∈ l) : ((l.filter p).map f).contains (f a) = p a := by
  rw [Bool.eq_iff_iff, contains_iff_mem, mem_map]
  exact ⟨fun ⟨b, hb, hk⟩ => h.eq_of_key_eq (mem_filter.mp hb).1 ha hk ▸ (mem_filter.mp hb).2,
    fun hp => ⟨a, mem_filter.mpr ⟨ha, hp⟩, rfl⟩⟩

theorem lookup_of_mem [BEq α] [LawfulBEq α] : ∀ {l : List (α × γ)} {k : α} {v : γ},
    (∀ a ∈ l, ∀ b ∈ l, a.1 = b.1 → a = b) → (k, v) ∈ l → l.lookup k = some v
  | (k0, v0) :: l, k, v, hl, hm => by
    rw [lookup_cons]
    by_cases e : k = k0
    · cases hl (k0, v0) mem_cons_self (k, v) hm e.symm
      simp
    · have hm' : (k, v) ∈ l := (mem_cons.mp hm).resolve_left fun h => e (congrArg Prod.fst h)
      simp only [beq_eq_false_iff_ne.mpr e]
      exact lookup_of_mem (fun a ha b hb => hl a (mem_cons_of_mem _ ha) b (mem_cons_of_mem _ hb)) hm'

theorem mem_of_lookup_eq_some [BEq α] [LawfulBEq α] {l : List (α × γ)} {k : α} {v : γ} (h : l.lookup k = some v) : (k, v) ∈ l := by
  obtain ⟨l₁, l₂, rfl, _⟩ := lookup_eq_some_iff.mp h
  exact mem_append_right _ mem_cons_self

theorem lookup_eq_none_of_forall_not_mem [BEq α] [LawfulBEq α] {l : List (α × γ)} {k : α} (h : ∀ v, (k, v) ∉ l) :
    l.lookup k = none :=
  lookup_eq_none_iff.mpr fun p hp => bne_iff_ne.mpr fun e => h p.2 (e ▸ hp)

theorem lookup_cons_ne [BEq α] [LawfulBEq α] {l : List (α × γ)} {k k' : α} {v : γ} (h : k' ≠ k) :
    ((k, v) :: l).lookup k' = l.lookup k' := by
  rw [lookup_cons, beq_false_of_ne h]

theorem any_fst_beq_iff [BEq α] [LawfulBEq α] {l : List (α × γ)} {k : α} : l.any (·.1 == k) = true ↔ ∃ v, (k, v) ∈ l := by
  simp only [any_eq_true, beq_iff_eq]
  exact ⟨fun ⟨⟨_, v⟩, hm, hk⟩ => ⟨v, hk ▸ hm⟩, fun ⟨v, hm⟩ => ⟨(k, v), hm, rfl⟩⟩

theorem find?_fst_of_mem [BEq α] [LawfulBEq α] {l : List (α × γ)} (hu : l.Pairwise (fun a b => a.1 ≠ b.1)) {k : α} {v : γ}
    (hm : (k, v) ∈ l) : l.find? (·.1 == k) = some (k, v) := by
  induction hu with
  | nil => cases hm
  | @cons x xs hx _ ih =>
    rcases mem_cons.mp hm with rfl | hm
    · simp
    · rw [find?_cons_of_neg (by simpa using hx _ hm)]
      exact ih hm

theorem mem_of_find?_fst [BEq α] [LawfulBEq α] {l : List (α × γ)} {k : α} {x : α × γ}
    (h : l.find? (·.1 == k) = some x) : (k, x.2) ∈ l := by
  have hk : x.1 = k := by simpa using find?_some h
  exact hk ▸ mem_of_find?_eq_some h

theorem not_mem_map_of_find?_eq_none [BEq β] [LawfulBEq β] {f : α → β} {l : List α} {k : β}
    (h : l.find? (f · == k) = none) : k ∉ l.map f := by
  intro hm
  obtain ⟨a, ha, hk⟩ := mem_map.mp hm
  simpa [hk] using find?_eq_none.mp h a ha

theorem find?_filter_of_imp {p q : α → Bool} (h : ∀ a, q a = true → p a = true) (l : List α) :
    (l.filter p).find? q = l.find? q := by
  rw [find?_filter]
  congr 1
  funext a
  cases hq : q a
  · simp
  · simp [h a hq]

theorem find?_filter_eq_none {p q : α → Bool} (h : ∀ a, q a = true → p a = false) (l : List α) :
    (l.filter p).find? q = none :=
  find?_eq_none.mpr fun a ha hq => by
    have := (mem_filter.mp ha).2
    rw [h a hq] at this
    cases this

theorem lookup_filter_of_imp [BEq α] [LawfulBEq α] {p : α × γ → Bool} {k : α} (h : ∀ e : α × γ, e.1 = k → p e = true) :
    ∀ (l : List (α × γ)), (l.filter p).lookup k = l.lookup k
  | [] => rfl
  | (a, b) :: l => by
    by_cases hp : p (a, b) = true
    · rw [filter_cons_of_pos hp, lookup_cons, lookup_cons, lookup_filter_of_imp h l]
    · have hne : (k == a) = false := beq_eq_false_iff_ne.mpr fun e => hp (h (a, b) e.symm)
      rw [filter_cons_of_neg hp, lookup_cons, hne, lookup_filter_of_imp h l]

theorem lookup_filter_eq_none [BEq α] [LawfulBEq α] {p : α × γ → Bool} {k : α} (h : ∀ e : α × γ, e.1 = k → p e = false)
    (l : List (α × γ)) : (l.filter p).lookup k = none :=
  lookup_eq_none_iff.mpr fun e he => bne_iff_ne.mpr fun hk => by
    have := (mem_filter.mp he).2
    rw [h e hk.symm] at this
    cases this

/-- A fold that has reached a state no element changes stays there: the rest of a translated loop after its `break`. -/
theorem foldl_fixed {f : β → α → β} {b : β} (h : ∀ a, f b a = b) (l : List α) : l.foldl f b = b := by
  induction l with
  | nil => rfl
  | cons a l ih => rw [foldl_cons, h, ih]

/-- What the step at some element of the list establishes, and every step keeps, holds at the end of the fold. -/
theorem foldl_of_mem {P : β → Prop} {f : β → α → β} {a : α} (ha : ∀ b, P (f b a)) (hf : ∀ b a', P b → P (f b a')) :
    ∀ {l : List α} (b : β), a ∈ l → P (l.foldl f b)
  | x :: l, b, hm => by
    rcases mem_cons.mp hm with rfl | hm
    · exact foldlRecOn l f (ha b) fun b hb a' _ => hf b a' hb
    · exact foldl_of_mem ha hf (f b x) hm

/-- A loop that updates two accumulators independently is two loops. -/
theorem foldl_prod (f : β → α → β) (g : γ → α → γ) (l : List α) (b : β) (c : γ) :
    l.foldl (fun p a => (f p.1 a, g p.2 a)) (b, c) = (l.foldl f b, l.foldl g c) := by
  induction l generalizing b c with
  | nil => rfl
  | cons a l ih => exact ih _ _

/-- Folding an associative operation with right unit `u` from the left, starting at `acc`, is `acc` combined with the fold
from the right. -/
theorem foldl_eq_op_foldr (op : γ → γ → γ) (u : γ) (assoc : ∀ a b c, op (op a b) c = op a (op b c))
    (unit : ∀ a, op a u = a) (v : β → γ) (l : List β) (acc : γ) :
    l.foldl (fun a x => op a (v x)) acc = op acc (l.foldr (fun x r => op (v x) r) u) := by
  induction l generalizing acc with
  | nil => exact (unit acc).symm
  | cons x l ih => rw [foldl_cons, ih, foldr_cons, assoc]

theorem flatMap_congr {f g : α → List β} : ∀ {l : List α}, (∀ x ∈ l, f x = g x) → l.flatMap f = l.flatMap g
  | [], _ => rfl
  | x :: xs, h => by
    rw [flatMap_cons, flatMap_cons, h x mem_cons_self, flatMap_congr fun y hy => h y (mem_cons_of_mem _ hy)]

theorem all_congr_of_mem {p q : α → Bool} : ∀ {l : List α}, (∀ x ∈ l, p x = q x) → l.all p = l.all q
  | [], _ => rfl
  | a :: as, h => by
    rw [all_cons, all_cons, h a mem_cons_self, all_congr_of_mem fun x hx => h x (mem_cons_of_mem _ hx)]

theorem countP_le_one_of_pairwise (p : α → Bool) :
    ∀ l : List α, l.Pairwise (fun a b => ¬ (p a = true ∧ p b = true)) → l.countP p ≤ 1
  | [], _ => Nat.zero_le _
  | a :: l, h => by
    have ⟨ha, hl⟩ := pairwise_cons.mp h
    have ih := countP_le_one_of_pairwise p l hl
    rw [countP_cons]
    split
    · have : l.countP p = 0 := countP_eq_zero.mpr fun b hb hpb => ha b hb ⟨‹_›, hpb⟩
      omega
    · omega

/-- On a list ordered by `R`, `takeWhile` finds every element that satisfies a predicate which passes down along `R`. -/
theorem mem_takeWhile_of_pairwise {R : α → α → Prop} {p : α → Bool} {l : List α} (hl : l.Pairwise R)
    (hp : ∀ a b, R a b → p b = true → p a = true) {e : α} (he : e ∈ l) (hpe : p e = true) : e ∈ l.takeWhile p := by
  induction l with
  | nil => cases he
  | cons x xs ih =>
    obtain ⟨hx, hxs⟩ := pairwise_cons.mp hl
    rcases mem_cons.mp he with rfl | he
    · simp [hpe]
    · simp [hp x e (hx e he) hpe, ih hxs he]

theorem Pairwise.mem_take_of_lt {l : List Nat} (hs : l.Pairwise (· < ·)) {t e x : Nat} (ht : l[t]? = some e) (hx : x ∈ l)
    (hlt : x < e) : x ∈ l.take t := by
  -- `l` splits at `t` into the part before and `e :: …`, and nothing in the latter is below `e`
  rw [← take_append_drop t l, mem_append] at hx
  refine hx.resolve_right fun hd => ?_
  obtain ⟨ht', rfl⟩ := getElem?_eq_some_iff.mp ht
  rw [drop_eq_getElem_cons ht', mem_cons] at hd
  rcases hd with rfl | hd
  · omega
  · have := rel_of_pairwise_cons (drop_eq_getElem_cons ht' ▸ hs.sublist (drop_sublist t l)) hd
    omega

theorem take_append_take_sub (a b : List α) (n : Nat) : a.take n ++ b.take (n - (a.take n).length) = (a ++ b).take n := by
  rw [take_append, length_take]
  congr 2
  omega

theorem length_filter_not_contains_take_le {κ : Type _} [BEq κ] [LawfulBEq κ] (key : α → κ) {l s : List α}
    (h : s.Perm l) (n : Nat) : (l.filter fun e => !((s.take n).map key).contains (key e)).length ≤ l.length - n := by
  rw [← (h.filter _).length_eq, ← h.length_eq]
  generalize hp : (fun e : α => !((s.take n).map key).contains (key e)) = p
  have ht : (s.take n).filter p = [] :=
    filter_eq_nil_iff.mpr fun a ha => by simpa [← hp, -map_take] using ⟨a, ha, rfl⟩
  calc (s.filter p).length = ((s.take n ++ s.drop n).filter p).length := by rw [take_append_drop]
    _ = ((s.drop n).filter p).length := by rw [filter_append, ht, nil_append]
    _ ≤ s.length - n := length_drop ▸ length_filter_le _ _

end List
