import ButlerModel.Lemmas.LR
/-! The table checks of `Model/LR.lean` in a form the kernel evaluates quickly.

`symOf` and `predsOf` search the whole edge list at every call, which makes `edgesConsistent`
quadratic and `reduceOK` pay a full scan at every node of every backward path.  Here the edges are
distributed once over a table indexed by target state (`into`), `symOf` and `predsOf` are shown to be
lookups in it, and `reduceOK` is replaced by a walk back along the right-hand side that does not list
the paths (`walk`).  `tablesCheck` is what the kernel evaluates; `tablesOK_of_check` is why that is
enough.  Nothing here depends on what the tables contain. -/
namespace LR
open Parser

variable {α : Type}

/-- `a` in front of the `k`-th list of `B`, which is lengthened with empty lists as needed -/
def consAt (a : α) : Nat → List (List α) → List (List α)
  | 0, [] => [[a]]
  | 0, b :: B => (a :: b) :: B
  | k + 1, [] => [] :: consAt a k []
  | k + 1, b :: B => b :: consAt a k B

theorem getD_consAt (a : α) (k : Nat) (B : List (List α)) (j : Nat) :
    (consAt a k B)[j]?.getD [] = if j = k then a :: B[j]?.getD [] else B[j]?.getD [] := by
  induction k generalizing B j with
  | zero => cases j <;> cases B <;> simp [consAt]
  | succ k ih => cases j <;> cases B <;> simp [consAt, ih]

/-- the values of `kvs` sorted into lists by key, each list in the order of `kvs` -/
def bucket (kvs : List (Nat × α)) : List (List α) := kvs.foldr (fun kv => consAt kv.2 kv.1) []

theorem getD_bucket (kvs : List (Nat × α)) (k : Nat) :
    (bucket kvs)[k]?.getD [] = (kvs.filter (·.1 == k)).map (·.2) := by
  induction kvs with
  | nil => simp [bucket]
  | cons kv kvs ih =>
    rw [bucket, List.foldr_cons, ← bucket, getD_consAt, ih, List.filter_cons]
    by_cases h : kv.1 = k
    · simp [h]
    · simp [h, Ne.symm h]

/-- the edges into each state, as (source, label), in the order of `edges` -/
def into : List (List (Nat × String)) := bucket (edges.map fun (s, X, t) => (t, s, X))

def intoOf (s : Nat) : List (Nat × String) := into[s]?.getD []

def symAt (s : Nat) : String := ((intoOf s).head?.map (·.2)).getD ""

theorem intoOf_eq (s : Nat) : intoOf s = (edges.filter (·.2.2 == s)).map fun e => (e.1, e.2.1) := by
  simp [intoOf, into, getD_bucket, List.filter_map, Function.comp_def]

theorem predsOf_eq (s : Nat) : predsOf s = (intoOf s).map (·.1) := by
  simp [predsOf, intoOf_eq]

theorem symOf_eq (s : Nat) : symOf s = symAt s := by
  rw [symOf, symAt, intoOf_eq, List.head?_map, List.head?_filter]
  cases edges.find? (·.2.2 == s) <;> rfl

/-- `reduceOK` for a production `lhs → …` whose right-hand side, read backwards, is `r`: `s` is entered
by the first symbol of `r`, has a predecessor, and the same holds one symbol further from every
predecessor; where `r` is used up there is a goto entry for `lhs`.

The binders here and in `into` are patterns, not projections, on purpose: a state then reaches `walk`
as the numeral that stands in the table, and the kernel, which keeps the value of every term it has
evaluated, computes `walk lhs r s` once however many paths lead through `s`. -/
def walk (lhs : String) : List String → Nat → Bool
  | [], s => (gotoOf s lhs).isSome
  | X :: r, s => (intoOf s).head?.map (·.2) == some X && (intoOf s).all fun (s', _) => walk lhs r s'

theorem walk_sound {lhs : String} {r : List String} {s : Nat} (h : walk lhs r s = true) :
    ∀ pm ∈ back r.length s, pm.2 = 0 ∧ (pm.1.take r.length).map symOf = r ∧
      ∃ o, pm.1[r.length]? = some o ∧ (gotoOf o lhs).isSome = true := by
  induction r generalizing s with
  | nil => simpa [back, walk] using h
  | cons X r ih =>
    rw [walk, Bool.and_eq_true, beq_iff_eq, List.all_eq_true] at h
    have hX : symOf s = X := by rw [symOf_eq, symAt, h.1]; rfl
    have hne : ¬ (predsOf s).isEmpty = true := by
      intro hp
      rw [predsOf_eq, List.isEmpty_iff, List.map_eq_nil_iff] at hp
      rw [hp] at h
      exact nomatch h.1
    intro pm hpm
    rw [List.length_cons, back, if_neg hne, List.mem_flatMap] at hpm
    obtain ⟨s', hs', hpm⟩ := hpm
    obtain ⟨⟨p, m⟩, hp, rfl⟩ := List.mem_map.1 hpm
    obtain ⟨e, he, rfl⟩ := List.mem_map.1 (predsOf_eq s ▸ hs')
    obtain ⟨h0, h1, o, h2, h3⟩ := ih (h.2 e he) _ hp
    exact ⟨h0, by rw [List.length_cons, List.take_succ_cons, List.map_cons, hX, h1], o, h2, h3⟩

def reduceOK' (s p : Nat) : Bool :=
  match prodInfo p with
  | none => false
  | some (_, lhs, len, rhs) => len == rhs.length && walk lhs rhs.reverse s

theorem reduceOK_of {s p : Nat} : reduceOK' s p = true → reduceOK s p = true := by
  fun_cases reduceOK' s p with
  | case1 => nofun
  | case2 _ lhs len rhs hp =>
    intro h
    simp only [Bool.and_eq_true, beq_iff_eq] at h
    obtain ⟨rfl, hw⟩ := h
    simp only [reduceOK, hp, BEq.rfl, Bool.true_and, List.all_eq_true]
    intro pm hpm
    obtain ⟨h0, h1, o, h2, h3⟩ := walk_sound hw pm (by simpa using hpm)
    simp only [List.length_reverse] at h1 h2
    simp [h0, h1, h2, h3]

/-- The reduce entries of which `reducePairs` keeps one each.  A repeated entry costs the kernel
nothing, for the same reason as a repeated `walk`; `eraseDups` compares every entry with all that are kept. -/
def reduceEntries : List (Nat × Nat) :=
  (Gen.Grammar.action.flatMap fun (st, row) =>
    row.filterMap fun (_, k, n) => if k == 1 then some (st, n) else none) ++ Gen.Grammar.defaulted

def tablesCheck : Bool :=
  (edges.all fun (_, X, t) => X == symAt t) && startHasNoPred &&
  (reduceEntries.all fun (s, p) => reduceOK' s p) && actionsOK

theorem tablesOK_of_check (h : tablesCheck = true) : TablesOK := by
  simp only [tablesCheck, Bool.and_eq_true] at h
  obtain ⟨⟨⟨hc, hs⟩, hr⟩, ha⟩ := h
  refine ⟨by simpa only [edgesConsistent, symOf_eq] using hc, hs, ?_, ha⟩
  rw [reducesOK, List.all_eq_true]
  intro x hx
  exact reduceOK_of (List.all_eq_true.1 hr x (List.mem_eraseDups.1 hx))

end LR
