import ButlerModel.Model.Paging
/-! The insertion sort of `Model/Paging.lean` (ORDER BY; `Cache.sortCache` and `ExportOrder.sorted` are instances) yields a sorted permutation. -/
namespace Paging
variable {α : Type}

theorem insertBy_perm (lt : α → α → Bool) (x : α) (l : List α) : (insertBy lt x l).Perm (x :: l) := by
  fun_induction insertBy lt x l with
  | case1 => exact .refl _
  | case2 y ys _ => exact .refl _
  | case3 y ys _ ih => exact (ih.cons y).trans (.swap x y ys)

theorem sortBy_perm (lt : α → α → Bool) (l : List α) : (sortBy lt l).Perm l := by
  induction l with
  | nil => exact List.Perm.refl _
  | cons x xs ih => exact (insertBy_perm lt x (sortBy lt xs)).trans (ih.cons x)

theorem insertBy_sorted (lt : α → α → Bool) (htrans : ∀ a b c, lt b a = false → lt c b = false → lt c a = false)
    (htotal : ∀ a b, lt a b = true → lt b a = false)
    (x : α) (l : List α) (h : l.Pairwise (fun a b => lt b a = false)) :
    (insertBy lt x l).Pairwise (fun a b => lt b a = false) := by
  fun_induction insertBy lt x l with
  | case1 => exact List.pairwise_singleton _ _
  | case2 y ys hlt =>
    refine List.pairwise_cons.mpr ⟨fun z hz => ?_, h⟩
    rcases List.mem_cons.mp hz with rfl | hz
    · exact htotal x z hlt
    · exact htrans x y z (htotal x y hlt) (List.rel_of_pairwise_cons h hz)
  | case3 y ys hnlt ih =>
    refine List.pairwise_cons.mpr ⟨fun z hz => ?_, ih h.of_cons⟩
    rcases List.mem_cons.mp ((insertBy_perm lt x ys).mem_iff.mp hz) with rfl | hz
    · exact Bool.eq_false_iff.mpr hnlt
    · exact List.rel_of_pairwise_cons h hz

theorem sortBy_sorted (lt : α → α → Bool) (htrans : ∀ a b c, lt b a = false → lt c b = false → lt c a = false)
    (htotal : ∀ a b, lt a b = true → lt b a = false) (l : List α) :
    (sortBy lt l).Pairwise (fun a b => lt b a = false) := by
  induction l with
  | nil => exact List.Pairwise.nil
  | cons x xs ih => exact insertBy_sorted lt htrans htotal x (sortBy lt xs) ih

end Paging
