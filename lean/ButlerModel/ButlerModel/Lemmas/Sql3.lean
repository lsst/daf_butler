import ButlerModel.Model.Sql3
namespace Sql

theorem and3_bool (p q : Bool) : and3 (.bool p) (.bool q) = .bool (p && q) := by
  cases p <;> cases q <;> rfl

end Sql
