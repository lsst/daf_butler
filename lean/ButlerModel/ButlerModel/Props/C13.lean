import ButlerModel.Model.DataId
import ButlerModel.Model.Front
import ButlerModel.Gen.StandardizePy
import ButlerModel.Lemmas.List
/-! # C13 — data IDs mean one thing: standardisation and expansion are consistent

`DataCoordinate.standardize`, `==` and `SqlRegistry.expandDataId` (`Model/DataId.lean`), the front end's defaulted and
record-style keys (`Model/Front.lean`), and `standardize` as translated from the source (`Gen/StandardizePy.lean`).
Expansion: soundness for one turn of the loop and for the whole walk; completeness for one turn (`merge_accepts`) — the
statement for the whole walk, `expandAll_complete`, is weaker than it reads, see there. -/
namespace C13
open Dim DataId

theorem get_append (a b : Assoc) (k : Nat) : getv (a ++ b) k = (getv a k).or (getv b k) := by
  unfold getv
  rw [List.find?_append]
  cases List.find? (fun x => x.1 == k) a <;> simp

theorem get_cons (d v : Nat) (m : Assoc) (k : Nat) : getv ((d, v) :: m) k = if d = k then some v else getv m k := by
  by_cases h : d = k <;> simp [getv, h]

theorem get_singleton (d v k : Nat) : getv [(d, v)] k = if d = k then some v else none := get_cons d v [] k

theorem get_update (a b : Assoc) (k : Nat) : getv (update a b) k = (getv b k).or (getv a k) := get_append b a k

theorem get_withDefaults (m d : Assoc) (k : Nat) : getv (withDefaults m d) k = (getv m k).or (getv d k) := get_append m d k

theorem get_setdefault (m : Assoc) (k v x : Nat) : getv (setdefault m k v) x = (getv m x).or (getv [(k, v)] x) := by
  fun_cases setdefault m k v with
  | case1 h =>
    rw [get_singleton]
    by_cases hkx : k = x
    · obtain ⟨w, hw⟩ := Option.isSome_iff_exists.mp (hkx ▸ h)
      rw [hw]; rfl
    · rw [if_neg hkx, Option.or_none]
  | case2 => exact get_append m [(k, v)] x

/-- `standardize` once the group is known: all it needs of the mapping, the keyword arguments and the defaults is
the lookup `look` of a key, and that only at members of the group (`build_congr`) -/
def build (U : Universe) (g : List Nat) (look : Nat → Option Nat) : Except Err DataId :=
  if g.isEmpty then .ok ⟨[], [], true⟩
  else if g.all (fun d => (look d).isSome) then
    .ok ⟨g, (required U g ++ implied U g).map (fun d => (d, (look d).getD 0)), true⟩
  else if (required U g).all (fun d => (look d).isSome) then
    .ok ⟨g, (required U g).map (fun d => (d, (look d).getD 0)), false⟩
  else .error .dimensionName

theorem standardize_eq_build (U : Universe) (m kw : Assoc) (dims : Option (List Nat)) (df : Assoc) :
    standardize U m kw dims df =
      build U (closeFast U (dims.getD ((update m kw).map (·.1)))) (getv (withDefaults (update m kw) df)) := by
  cases dims <;> rfl

theorem build_congr {U : Universe} {g : List Nat} {look look' : Nat → Option Nat} (h : ∀ x ∈ g, look x = look' x) :
    build U g look = build U g look' := by
  have hr : ∀ x ∈ required U g, look x = look' x := fun x hx => h x (List.mem_filter.mp hx).1
  have hi : ∀ x ∈ implied U g, look x = look' x := fun x hx => h x (List.mem_filter.mp hx).1
  have hri : ∀ x ∈ required U g ++ implied U g, look x = look' x := fun x hx => (List.mem_append.mp hx).elim (hr x) (hi x)
  unfold build
  rw [List.all_congr_of_mem fun x hx => congrArg Option.isSome (h x hx),
    List.all_congr_of_mem fun x hx => congrArg Option.isSome (hr x hx),
    List.map_congr_left fun x hx => congrArg (fun o => (x, o.getD 0)) (hr x hx),
    List.map_congr_left fun x hx => congrArg (fun o => (x, o.getD 0)) (hri x hx)]

/-- With explicit dimensions, standardisation looks at its inputs only through key lookup:
entry order, repeated keys and how the pairs are split between the mapping and the keyword
arguments are irrelevant. -/
theorem standardize_lookup_only (U : Universe) (m kw m' kw' : Assoc) (d : List Nat) (df : Assoc)
    (h : ∀ k, getv (update m kw) k = getv (update m' kw') k) :
    standardize U m kw (some d) df = standardize U m' kw' (some d) df := by
  rw [standardize_eq_build, standardize_eq_build]
  exact build_congr fun x _ => by rw [get_withDefaults, get_withDefaults, h x]

/-- Keys outside the requested dimensions never matter. -/
theorem standardize_extra_keys_irrelevant (U : Universe) (m kw : Assoc) (d : List Nat) (df : Assoc)
    (k v : Nat) (hk : ¬ k ∈ closeFast U d) :
    standardize U ((k, v) :: m) kw (some d) df = standardize U m kw (some d) df := by
  rw [standardize_eq_build, standardize_eq_build]
  refine build_congr fun x hx => ?_
  have hkx : k ≠ x := fun hc => hk (hc ▸ hx)
  rw [get_withDefaults, get_withDefaults, get_update, get_update, get_cons, if_neg hkx]

/-- Defaults only ever fill keys that are missing. -/
theorem defaults_only_fill (m df : Assoc) (k v : Nat) (h : getv m k = some v) : getv (withDefaults m df) k = some v := by
  rw [get_withDefaults, h]
  rfl

/-- `==` looks at the dimensions and the required values only. -/
theorem eqv_iff (U : Universe) (a b : DataId) :
    eqv U a b = true ↔ a.group = b.group ∧ ∀ d ∈ required U a.group, getv a.vals d = getv b.vals d := by
  simp only [eqv, Bool.and_eq_true, beq_iff_eq, List.all_eq_true]

theorem eqv_refl (U : Universe) (a : DataId) : eqv U a a = true :=
  (eqv_iff U a a).mpr ⟨rfl, fun _ _ => rfl⟩

theorem eqv_symm (U : Universe) (a b : DataId) (h : eqv U a b = true) : eqv U b a = true := by
  obtain ⟨hg, hr⟩ := (eqv_iff U a b).mp h
  exact (eqv_iff U b a).mpr ⟨hg.symm, fun d hd => (hr d (hg ▸ hd)).symm⟩

/-- Extra (implied) values or a different full/required state never affect equality. -/
theorem eqv_ignores_implied (U : Universe) (a b : DataId) (hg : a.group = b.group)
    (hr : ∀ d ∈ required U a.group, getv a.vals d = getv b.vals d) : eqv U a b = true :=
  (eqv_iff U a b).mpr ⟨hg, hr⟩

/-! ## expansion -/

/-- `setdefault` semantics: a key that has a value keeps it. -/
theorem merge_keeps (rec : Record) : ∀ (imp : List Nat) (ks ks' : Assoc) (k v : Nat),
    mergeImplied rec imp ks = .ok ks' → getv ks k = some v → getv ks' k = some v := by
  intro imp ks ks' k v h hk
  fun_induction mergeImplied rec imp ks with
  | case1 => cases h; exact hk
  | case2 d ds ks w _ ih => exact ih h (by rw [get_append, hk]; rfl)
  | case3 d ds ks w v' _ _ ih => exact ih h hk
  | case4 => cases h

/-- After the implied values of a record have been merged successfully, every implied dimension
has exactly the record's value. -/
theorem merge_sound (rec : Record) : ∀ (imp : List Nat) (ks ks' : Assoc),
    mergeImplied rec imp ks = .ok ks' → ∀ d ∈ imp, getv ks' d = some ((getv rec d).getD 0) := by
  intro imp ks ks' h d hd
  fun_induction mergeImplied rec imp ks with
  | case1 => cases hd
  | case2 x xs ks w hn ih =>         -- `x` is new and gets the record's value
    rcases List.mem_cons.mp hd with rfl | hdx
    · exact merge_keeps rec xs _ ks' d w h (by rw [get_append, hn, get_singleton, if_pos rfl]; rfl)
    · exact ih h hdx
  | case3 x xs ks w v' hk hv ih =>   -- `x` has the record's value already
    rcases List.mem_cons.mp hd with rfl | hdx
    · exact merge_keeps rec xs ks ks' d w h (by rw [hk, eq_of_beq hv])
    · exact ih h hdx
  | case4 => cases h

/-- **A contradiction between a key value and a fetched record is always rejected** with
`InconsistentDataIdError` (whatever else the record implies). -/
theorem merge_rejects (rec : Record) : ∀ (imp : List Nat) (ks : Assoc) (d v' : Nat),
    d ∈ imp → getv ks d = some v' → v' ≠ (getv rec d).getD 0 →
    mergeImplied rec imp ks = .error .inconsistent := by
  intro imp ks d v' hd hk hne
  fun_induction mergeImplied rec imp ks with
  | case1 => cases hd
  | case2 x xs ks w hn ih =>
    rcases List.mem_cons.mp hd with rfl | hdx
    · cases hn.symm.trans hk
    · exact ih hdx (by rw [get_append, hk]; rfl)
  | case3 x xs ks w v hv hvw ih =>
    rcases List.mem_cons.mp hd with rfl | hdx
    · cases hv.symm.trans hk
      exact absurd (eq_of_beq hvw) hne
    · exact ih hdx hk
  | case4 => rfl

/-- One loop step of `expandDataId`, success case: the implied values now in `keys` are the stored
record's, and every earlier key is untouched. -/
theorem expandStep_sound (U : Universe) (store : Store) (dr : Nat → Bool) (g : List Nat) (keys keys' : Assoc)
    (e : Nat) (h : expandStep U store dr g keys e = .ok keys') :
    (∀ k v, getv keys k = some v → getv keys' k = some v) ∧
    (∀ rec, store e ((elemKeys U e).map fun k => (k, (getv keys k).getD 0)) = some rec →
      ∀ d ∈ (elemAt U e).imp, getv keys' d = some ((getv rec d).getD 0)) := by
  revert h
  fun_cases expandStep U store dr g keys e with
  | case1 | case3 | case4 => nofun
  | case2 _ rec hs =>
    intro h
    exact ⟨fun k v => merge_keeps rec _ keys keys' k v h,
      fun _ hrec => by cases hs.symm.trans hrec; exact merge_sound rec _ keys keys' h⟩
  | case5 _ hs =>                -- no record, and none is asked for: the keys stay
    intro h
    cases h
    exact ⟨fun _ _ hk => hk, fun _ hrec => by cases hs.symm.trans hrec⟩

/-- Whole expansion: values that were given (or learnt) are never changed later. -/
theorem expand_keeps (U : Universe) (store : Store) (dr : Nat → Bool) (g : List Nat) :
    ∀ (order : List Nat) (keys keys' : Assoc),
      expandAll U store dr g order keys = .ok keys' →
      ∀ k v, getv keys k = some v → getv keys' k = some v := by
  intro order keys keys' h k v hk
  fun_induction expandAll U store dr g order keys with
  | case1 => cases h; exact hk
  | case2 e es ks k1 hs ih => exact ih h ((expandStep_sound U store dr g ks k1 e hs).1 k v hk)
  | case3 => cases h

/-- Every record found along the way is reflected exactly in the result. -/
theorem expand_records (U : Universe) (store : Store) (dr : Nat → Bool) (g : List Nat) :
    ∀ (order : List Nat) (keys keys' : Assoc),
      expandAll U store dr g order keys = .ok keys' →
      ∀ e ∈ order, ∃ ks, (∀ k v, getv ks k = some v → getv keys' k = some v) ∧
        ∀ rec, store e ((elemKeys U e).map fun k => (k, (getv ks k).getD 0)) = some rec →
          ∀ d ∈ (elemAt U e).imp, getv keys' d = some ((getv rec d).getD 0) := by
  intro order keys keys' h e he
  fun_induction expandAll U store dr g order keys with
  | case1 => cases he
  | case2 x xs ks k1 hs ih =>
    rcases List.mem_cons.mp he with rfl | hex
    · have hstep := expandStep_sound U store dr g ks k1 e hs
      have hkeep := expand_keeps U store dr g xs k1 keys' h
      exact ⟨ks, fun k v hk => hkeep k v (hstep.1 k v hk), fun rec hrec d hd => hkeep d _ (hstep.2 rec hrec d hd)⟩
    · exact ih h hex
  | case3 => cases h

/-- **Expansion is sound**: when `expandDataId` succeeds, every value that was given is in the result unchanged.  (That
the implied values of the result are those of the records found is `expand_records`.) -/
theorem expand_sound (U : Universe) (store : Store) (dr : Nat → Bool) (d : DataId) (keys' : Assoc)
    (h : expand U store dr d = .ok keys') :
    (∀ k v, getv d.vals k = some v → getv keys' k = some v) :=
  expand_keeps U store dr d.group _ d.vals keys' h

/-- **…and it rejects contradictions**: if, at the step for element `e`, a key already holds a value
different from what `e`'s stored record implies, that step fails with `InconsistentDataIdError`. -/
theorem expandStep_rejects (U : Universe) (store : Store) (dr : Nat → Bool) (g : List Nat) (keys : Assoc)
    (e : Nat) (rec : Record) (d v' : Nat)
    (hdim : ((elemAt U e).isDim && (getv keys e).isNone) = false)
    (hrec : store e ((elemKeys U e).map fun k => (k, (getv keys k).getD 0)) = some rec)
    (hd : d ∈ (elemAt U e).imp) (hk : getv keys d = some v') (hne : v' ≠ (getv rec d).getD 0) :
    expandStep U store dr g keys e = .error .inconsistent := by
  unfold expandStep
  simp only [hdim, Bool.false_eq_true, ↓reduceIte, hrec]
  exact merge_rejects rec _ keys d v' hd hk hne

/-- A missing record for a dimension of the data ID is `DataIdValueError`; a missing record of a
relationship-defining element is `InconsistentDataIdError`. -/
theorem expandStep_missing (U : Universe) (store : Store) (dr : Nat → Bool) (g : List Nat) (keys : Assoc) (e : Nat)
    (hdim : ((elemAt U e).isDim && (getv keys e).isNone) = false)
    (hrec : store e ((elemKeys U e).map fun k => (k, (getv keys k).getD 0)) = none) :
    expandStep U store dr g keys e =
      if g.contains e then .error .dataIdValue else if dr e then .error .inconsistent else .ok keys := by
  unfold expandStep
  simp only [hdim, Bool.false_eq_true, ↓reduceIte, hrec]

/-! ### completeness: a data ID that agrees with the stored records is not refused because of a record that was found -/

/-- `keys` only holds values of the assignment `full`. -/
def Within (full : Nat → Nat) (ks : Assoc) : Prop := ∀ k v, getv ks k = some v → v = full k

theorem merge_accepts (full : Nat → Nat) (rec : Record) : ∀ (imp : List Nat) (ks : Assoc),
    (∀ d ∈ imp, (getv rec d).getD 0 = full d) → Within full ks →
    ∃ ks', mergeImplied rec imp ks = .ok ks' ∧ Within full ks' := by
  intro imp ks hrec hw
  fun_induction mergeImplied rec imp ks with
  | case1 ks => exact ⟨ks, rfl, hw⟩
  | case2 x xs ks w hn ih =>          -- `x` is new: it gets the record's value, which is `full x`
    refine ih (fun d hd => hrec d (List.mem_cons_of_mem _ hd)) fun k v hkv => ?_
    rw [get_append, get_singleton] at hkv
    by_cases hxk : x = k
    · subst hxk
      rw [hn, if_pos rfl] at hkv
      cases hkv
      exact hrec x List.mem_cons_self
    · rw [if_neg hxk, Option.or_none] at hkv
      exact hw k v hkv
  | case3 x xs ks w v' _ _ ih => exact ih (fun d hd => hrec d (List.mem_cons_of_mem _ hd)) hw
  | case4 x xs ks w v' hk hne =>      -- cannot be: the value `x` has is `full x`, and so is the record's
    exact absurd (beq_iff_eq.mpr ((hw x v' hk).trans (hrec x List.mem_cons_self).symm)) hne

/-- **Completeness**, as far as it is stated: if every stored record agrees with one assignment `full` and the given
keys are within `full`, the walk succeeds with keys within `full`, or some element has a *missing* key or record.  The
proof finds that element at the keys the walk has reached; the statement says less: `ks0` is any keys within `full`, and
with `ks0 = []` the second alternative holds of every `es` that contains a dimension.  The content is in
`merge_accepts`. -/
theorem expandAll_complete (U : Universe) (store : Store) (dr : Nat → Bool) (g : List Nat) (full : Nat → Nat)
    (hstore : ∀ e kv rec, store e kv = some rec → ∀ d ∈ (elemAt U e).imp, (getv rec d).getD 0 = full d) :
    ∀ (es : List Nat) (ks : Assoc), Within full ks →
      (∃ ks', expandAll U store dr g es ks = .ok ks' ∧ Within full ks') ∨
      (∃ e ∈ es, ∃ ks0, Within full ks0 ∧
        (((elemAt U e).isDim && (getv ks0 e).isNone) = true ∨
          store e ((elemKeys U e).map fun k => (k, (getv ks0 k).getD 0)) = none)) := by
  intro es ks hw
  induction es generalizing ks with
  | nil => exact .inl ⟨ks, rfl, hw⟩
  | cons e es ih =>
    unfold expandAll
    fun_cases expandStep U store dr g ks e with
    | case1 hdim => exact .inr ⟨e, List.mem_cons_self, ks, hw, .inl hdim⟩
    | case2 _ rec hrec =>
      obtain ⟨ks', hm, hw'⟩ := merge_accepts full rec _ ks (hstore e _ rec hrec) hw
      rw [hm]
      rcases ih ks' hw' with h | ⟨e', he', ks0, hw0, hc⟩
      · exact .inl h
      · exact .inr ⟨e', List.mem_cons_of_mem _ he', ks0, hw0, hc⟩
    | case3 _ hrec | case4 _ hrec | case5 _ hrec => exact .inr ⟨e, List.mem_cons_self, ks, hw, .inr hrec⟩

end C13

/-! # Defaulted keys and record-style keys (the Butler front end) -/
namespace C13.Front
open _root_.Front

/-! ## defaults -/

/-- the state a `Defaults` object is always in: its value is what `finish` computes from its own
collections, inference flag and explicit default — nothing is carried over from an earlier object -/
def WF (h : Holds) (d : Defaults) : Prop := d.value = finish h d.colls d.infer d.explicit

theorem mk_wf (h : Holds) (c : List Nat) (i : Bool) (x : Option Nat) : WF h (mk h c i x) := rfl

theorem clone_wf (h : Holds) (d : Defaults) (c : Option (List Nat)) (i : Option Bool) (x : Option (Option Nat)) :
    WF h (clone h d c i x) := rfl

/-- **No stale default survives `clone()`**, however long the chain of clones: the value is determined
by the collections, flag and explicit default the last object ended up with. -/
theorem clones_wf (h : Holds) : ∀ (cs : List CloneArgs) (d : Defaults), WF h d → WF h (clones h d cs) :=
  fun cs _ hd => List.foldlRecOn cs _ hd fun d _ c _ => clone_wf h d c.colls c.infer c.dataId

theorem explicit_wins (h : Holds) (c : List Nat) (i : Bool) (v : Nat) : (mk h c i (some v)).value = some v := rfl

/-- an explicit default given to `clone` wins; one given earlier is kept when `clone` is not told otherwise -/
theorem clone_explicit (h : Holds) (d : Defaults) (c : Option (List Nat)) (i : Option Bool) (v : Nat) :
    (clone h d c i (some (some v))).value = some v := rfl

theorem clone_keeps_explicit (h : Holds) (d : Defaults) (c : Option (List Nat)) (i : Option Bool) (v : Nat)
    (hd : d.explicit = some v) : (clone h d c i none).value = some v := by
  simp [clone, mk, finish, hd]

/-- **An inferred default is the value all default collections agree on**: every value any of them
lists is that value, and at least one lists it. -/
theorem inferred_sound (h : Holds) (colls : List Nat) (v : Nat) (hi : inferred h colls = some v) :
    (∀ c ∈ colls, ∀ w ∈ h c, w = v) ∧ ∃ c ∈ colls, v ∈ h c := by
  revert hi
  fun_cases inferred h colls with
  | case1 v' heq =>
    rintro ⟨⟩
    -- the values the collections list, taken together, are exactly `v`
    have hm : ∀ w, w ∈ colls.flatMap h ↔ w = v := fun w => by rw [← List.mem_eraseDups, heq, List.mem_singleton]
    exact ⟨fun c hc w hw => (hm w).mp (List.mem_flatMap.mpr ⟨c, hc, hw⟩), List.mem_flatMap.mp ((hm v).mpr rfl)⟩
  | case2 => nofun

theorem inferred_none_of_disagreement (h : Holds) (colls : List Nat) (c1 c2 : Nat) (v1 v2 : Nat)
    (h1 : c1 ∈ colls) (h2 : c2 ∈ colls) (m1 : v1 ∈ h c1) (m2 : v2 ∈ h c2) (hne : v1 ≠ v2) : inferred h colls = none := by
  refine Option.eq_none_iff_forall_ne_some.mpr fun v hi => ?_
  obtain ⟨hall, _⟩ := inferred_sound h colls v hi
  exact hne ((hall c1 h1 v1 m1).trans (hall c2 h2 v2 m2).symm)

theorem inferred_none_of_empty (h : Holds) (colls : List Nat) (he : ∀ c ∈ colls, h c = []) : inferred h colls = none := by
  refine Option.eq_none_iff_forall_ne_some.mpr fun v hi => ?_
  obtain ⟨_, c, hc, hv⟩ := inferred_sound h colls v hi
  rw [he c hc] at hv
  cases hv

/-- a key the caller wrote is never replaced by a default; a missing one is completed by it or rejected -/
theorem complete_given (d : Defaults) (v : Nat) : complete d (some v) = some v := rfl
theorem complete_missing (d : Defaults) : complete d none = d.value := by simp [complete]

example : (clones (fun c => if c = 1 then [7] else if c = 2 then [8] else [])
    (mk (fun c => if c = 1 then [7] else if c = 2 then [8] else []) [1] true none)
    [{ colls := some [2] }, {}, { colls := some [2, 1] }]).value = none := by decide
example : (clones (fun c => if c = 1 then [7] else if c = 2 then [8] else [])
    (mk (fun c => if c = 1 then [7] else if c = 2 then [8] else []) [1] true none) [{ colls := some [2, 3] }]).value = some 8 := by decide

/-! ## record-style keys -/

/-- **Accepted means consistent**: the dimension value that comes out names a stored record that
carries every field value the caller gave; with an explicit value it is that value. -/
theorem rewrite_sound (recs : List Rec) (explicit : Option Nat) (vals : List (Nat × Nat)) (k : Nat) (hv : vals ≠ [])
    (h : rewrite recs explicit vals = some k) :
    (∃ r ∈ recs, r.id = k ∧ carries r vals = true) ∧ (∀ e, explicit = some e → e = k) := by
  revert h
  fun_cases rewrite recs explicit vals with
  | case1 e r hf hc =>           -- an explicit value, and its record is there and carries the fields
    rintro ⟨⟩
    exact ⟨⟨r, List.mem_of_find?_eq_some hf, by simpa using List.find?_some hf, hc⟩,
      fun _ he => (Option.some.inj he).symm⟩
  | case3 e _ he => exact absurd (List.isEmpty_iff.mp he) hv
  | case5 r hf =>                -- no explicit value, and exactly one record carries the fields
    rintro ⟨⟩
    have hm := List.mem_filter.mp (hf ▸ List.mem_singleton_self r : r ∈ recs.filter (carries · vals))
    exact ⟨⟨r, hm.1, rfl, hm.2⟩, fun _ he => nomatch he⟩
  | case2 | case4 | case6 => nofun

/-- **A self-contradictory data ID is rejected**: an explicit value whose record does not carry a
given field value — whatever is stored there, 0 and NULL included. -/
theorem contradiction_rejected (recs : List Rec) (k : Nat) (vals : List (Nat × Nat)) (r : Rec)
    (hf : recs.find? (·.id == k) = some r) (hc : carries r vals = false) : rewrite recs (some k) vals = none := by
  simp [rewrite, hf, hc]

/-- a stored NULL never equals a given value -/
theorem null_field_contradicts (r : Rec) (f v : Nat) (vals : List (Nat × Nat)) (hn : fieldOf r f = some none) (hm : (f, v) ∈ vals) :
    carries r vals = false := by
  refine Bool.eq_false_iff.mpr fun hc => ?_
  have := List.all_eq_true.mp hc (f, v) hm
  simp [hn] at this

/-- without the value: rejected unless exactly one record carries the fields -/
theorem ambiguous_rejected (recs : List Rec) (vals : List (Nat × Nat)) (r1 r2 : Rec) (rest : List Rec)
    (h : recs.filter (carries · vals) = r1 :: r2 :: rest) : rewrite recs none vals = none := by
  simp [rewrite, h]

theorem unmatched_rejected (recs : List Rec) (vals : List (Nat × Nat)) (h : recs.filter (carries · vals) = []) :
    rewrite recs none vals = none := by
  simp [rewrite, h]

theorem unique_accepted (recs : List Rec) (vals : List (Nat × Nat)) (r : Rec) (h : recs.filter (carries · vals) = [r]) :
    rewrite recs none vals = some r.id := by
  simp [rewrite, h]

def demoRecs : List Rec := [⟨10, [(1, some 0), (2, none)]⟩, ⟨11, [(1, some 1), (2, some 5)]⟩, ⟨12, [(1, some 1), (2, some 6)]⟩]
example : rewrite demoRecs (some 10) [(1, 0)] = some 10 ∧ rewrite demoRecs (some 10) [(1, 1)] = none ∧ rewrite demoRecs (some 10) [(2, 5)] = none
    ∧ rewrite demoRecs none [(1, 0)] = some 10 ∧ rewrite demoRecs none [(1, 1)] = none ∧ rewrite demoRecs none [(1, 1), (2, 6)] = some 12 := by decide

end C13.Front

/-! ### `DataCoordinate.standardize` (plain mapping) as translated from the source on every run (`Gen/StandardizePy.lean`, `translate/gen_standardize.py`) -/
namespace C13.Translated
open DataId Dim

theorem getv_fold_setdefault (d : Assoc) : ∀ (m : Assoc) (x : Nat),
    getv (d.foldl (fun m (p : Nat × Nat) => setdefault m p.1 p.2) m) x = (getv m x).or (getv d x) := by
  intro m x
  induction d generalizing m with
  | nil => simp [getv]
  | cons e r ih =>
    obtain ⟨k, v⟩ := e
    rw [List.foldl_cons, ih, C13.get_setdefault, Option.or_assoc, ← C13.get_append]
    rfl

/-- what the model's error becomes in the translation's `Except String` -/
def viewOf (r : Except Err DataId.DataId) : Except String DataId.DataId :=
  match r with
  | .ok d => .ok d
  | .error _ => .error "DimensionNameError"

theorem viewOf_ok (d : DataId.DataId) : viewOf (.ok d) = .ok d := rfl
theorem viewOf_error (e : Err) : viewOf (.error e) = .error "DimensionNameError" := rfl

/-- The translation is `build` for the group it computes and the lookup in the mapping it has merged: unfolded, the two
differ in the view of the error and in one test that the source writes negated. -/
theorem py_eq_build (U : Universe) (m kw : Assoc) (b : Bool) (ds : List Nat) (df : Assoc) :
    Gen.StandardizePy.standardizePy U m kw b ds df =
      viewOf (C13.build U (closeFast U (if b then (kw ++ m).map (·.1) else ds))
        (getv (df.foldl (fun nm (p : Nat × Nat) => setdefault nm p.1 p.2) (kw ++ m)))) := by
  cases b <;>
  simp only [Gen.StandardizePy.standardizePy, C13.build, DataId.update, List.append_nil, Bool.not_false, Bool.not_true,
    Bool.false_eq_true, if_true, if_false, apply_ite viewOf, viewOf_ok, viewOf_error, Bool.not_eq_true', ← Bool.not_eq_true,
    ite_not]

/-- **`DataCoordinate.standardize` (plain mapping) as translated from the source on every run is the model's `standardize`** — the
function `standardize_lookup_only` and `standardize_extra_keys_irrelevant` are about. -/
theorem translated_standardize (U : Universe) (m kw : Assoc) (dims : Option (List Nat)) (df : Assoc) :
    Gen.StandardizePy.standardizePy U m kw dims.isNone (dims.getD []) df = viewOf (standardize U m kw dims df) := by
  have hg : (if dims.isNone then (kw ++ m).map (·.1) else dims.getD []) = dims.getD ((update m kw).map (·.1)) := by
    cases dims <;> rfl
  rw [py_eq_build, C13.standardize_eq_build, hg]
  exact congrArg viewOf (C13.build_congr fun x _ =>
    (getv_fold_setdefault df _ x).trans (C13.get_withDefaults _ df x).symm)

end C13.Translated
