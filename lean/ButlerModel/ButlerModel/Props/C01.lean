import ButlerModel.Model.Store
import ButlerModel.Model.PathNorm
import ButlerModel.Gen.TemplatePy
import ButlerModel.Lemmas.List
/-! # C01 — a stored dataset reads back as exactly what was stored under it

Records and files of the datastore (model `Store`) against a plain map from dataset id to content: `get` refines the map after
every history in which each put goes to a path no stored dataset uses.  That hypothesis is where the guarantee ends: the file
template does not place injectively (`PathNorm.sanitizeL`, percent-decoding), and the witnesses below show what a collision does.
`C01.Translated`: one field of `FileTemplate.format` as translated from the source (`Gen/TemplatePy`) is written with `sanitizeL`. -/

namespace C01
open Store

theorem lookup_filter_ne {α : Type} {l : List (Nat × α)} {k k' : Nat} (h : k' ≠ k) :
    (l.filter (fun r => r.1 != k)).lookup k' = l.lookup k' :=
  List.lookup_filter_of_imp (fun e he => by simp [he, h]) l

theorem lookup_filter_self {α : Type} (l : List (Nat × α)) (k : Nat) :
    (l.filter (fun r => r.1 != k)).lookup k = none :=
  List.lookup_filter_eq_none (fun e he => by simp [he]) l

/-- Refinement invariant between the store and the specification map. -/
structure Rel (s : S) (a : List (Nat × Nat)) : Prop where
  /-- reading through records and files gives what the specification holds -/
  agree : ∀ id, get s id = (a.lookup id).map Res.ok
  /-- two stored datasets never share a path -/
  inj : ∀ r ∈ s.recs, ∀ r' ∈ s.recs, r.2.1 = r'.2.1 → r.1 = r'.1
  /-- a stored dataset has a record -/
  dom : ∀ id, (s.recs.lookup id).isSome = (a.lookup id).isSome

theorem rel_init : Rel {} [] := ⟨fun _ => rfl, List.forall_mem_nil _, fun _ => rfl⟩

/-- A read looks at the dataset's record and at the file that record names, and at nothing else. -/
theorem get_congr {s s' : S} {id : Nat} (hr : s'.recs.lookup id = s.recs.lookup id)
    (hf : ∀ r, s.recs.lookup id = some r → s'.files.lookup r.1 = s.files.lookup r.1) : get s' id = get s id := by
  unfold Store.get
  rw [hr]
  cases h : s.recs.lookup id with
  | none => rfl
  | some r => simp only [Option.bind, hf r h]

theorem rel_put {s : S} {a} (h : Rel s a) (id p c sz : Nat) (hf : FreshOp s (.put id p c sz)) :
    Rel (put s id p c sz) (specStep a (.put id p c sz)) := by
  simp only [put, specStep]
  rw [← h.dom id]
  split
  · exact h
  · refine ⟨fun id' => ?_, ?_, fun id' => ?_⟩
    · by_cases he : id' = id
      · subst he
        simp [Store.get, List.lookup_cons_self]
      · rw [List.lookup_cons_ne he, ← h.agree id']
        exact get_congr (List.lookup_cons_ne he) fun r hr => List.lookup_cons_ne (hf (id', r) (List.mem_of_lookup_eq_some hr))
    · intro r hr r' hr' hp
      rcases List.mem_cons.mp hr with rfl | hr <;> rcases List.mem_cons.mp hr' with rfl | hr'
      · rfl
      · exact absurd hp.symm (hf r' hr')
      · exact absurd hp (hf r hr)
      · exact h.inj r hr r' hr' hp
    · by_cases he : id' = id
      · subst he
        simp [List.lookup_cons_self]
      · rw [List.lookup_cons_ne he, List.lookup_cons_ne he]
        exact h.dom id'

theorem rel_remove {s : S} {a} (h : Rel s a) (id : Nat) : Rel (remove s id) (specStep a (.remove id)) := by
  simp only [remove, specStep]
  cases hl : s.recs.lookup id with
  | none =>
    -- nothing is recorded under `id`, so the specification holds nothing under it either
    have hnone : a.lookup id = none := (Option.isSome_eq_isSome.mp (h.dom id)).mp hl
    rw [List.filter_eq_self.mpr fun e he => bne_iff_ne.mpr (Ne.symm (bne_iff_ne.mp (List.lookup_eq_none_iff.mp hnone e he)))]
    exact h
  | some pr =>
    obtain ⟨p, sz⟩ := pr
    have hmem := List.mem_of_lookup_eq_some hl
    -- no other record names the path, so the file goes
    have noOther : (s.recs.filter (fun r => r.1 != id)).any (fun r => r.2.1 == p) = false :=
      List.any_eq_false.mpr fun r hr hrp => by
        obtain ⟨hr, hne⟩ := List.mem_filter.mp hr
        exact bne_iff_ne.mp hne (h.inj r hr (id, p, sz) hmem (beq_iff_eq.mp hrp))
    simp only [noOther, Bool.false_eq_true, ↓reduceIte]
    refine ⟨fun id' => ?_, fun r hr r' hr' => h.inj r (List.mem_filter.mp hr).1 r' (List.mem_filter.mp hr').1,
      fun id' => ?_⟩
    · by_cases he : id' = id
      · subst he
        simp [Store.get, lookup_filter_self]
      · rw [lookup_filter_ne he, ← h.agree id']
        refine get_congr (lookup_filter_ne he) fun r hr => lookup_filter_ne fun hpp => ?_
        exact he (h.inj (id', r) (List.mem_of_lookup_eq_some hr) (id, p, sz) hmem hpp)
    · by_cases he : id' = id
      · subst he
        simp [lookup_filter_self]
      · rw [lookup_filter_ne he, lookup_filter_ne he]
        exact h.dom id'

theorem rel_step {s : S} {a} (h : Rel s a) (op : Op) (hf : FreshOp s op) : Rel (step s op) (specStep a op) := by
  cases op with
  | put id p c sz => exact rel_put h id p c sz hf
  | remove id => exact rel_remove h id

theorem rel_history (ops : List Op) {s : S} {a} (h : Rel s a) (hv : Valid s ops) :
    Rel (ops.foldl step s) (ops.foldl specStep a) := by
  induction ops generalizing s a with
  | nil => exact h
  | cons op ops ih => exact ih (rel_step h op hv.1) hv.2

/-- **Read-your-writes for every history.** As long as every put goes to a path that no stored
dataset uses (injective placement), after any history of puts and removals `get` of every dataset
returns exactly what the specification map holds: the content stored under that id if it is still
stored, nothing otherwise — storing or deleting one dataset never changes another. -/
theorem get_refines_spec (ops : List Op) (hv : Valid {} ops) (id : Nat) :
    get (ops.foldl step {}) id = ((ops.foldl specStep []).lookup id).map Res.ok :=
  (rel_history ops rel_init hv).agree id

/-- The hypothesis is necessary, and it is where the code's guarantee ends: two datasets placed at
one path overwrite each other (the model follows `_write_in_memory_to_artifact`, which does not
look).  Known finding C01-a reaches this state through the template (`sanitize_not_injective`). -/
theorem collision_overwrites :
    get (([Op.put 1 7 100 5, Op.put 2 7 200 5] : List Op).foldl step {}) 1 = some (.ok 200) := by decide

/-- When the two serialised files differ in size the damage is at least noticed: the read fails with
`FileIntegrityError` instead of returning the other dataset's content. -/
theorem collision_integrity_error :
    get (([Op.put 1 7 100 5, Op.put 2 7 200 6] : List Op).foldl step {}) 1 = some .integrity := by decide

/-- …and removing the second of them leaves the first one registered, recorded and read back with the **wrong** content. -/
theorem collision_survives_removal :
    get (([Op.put 1 7 100 5, Op.put 2 7 200 5, Op.remove 2] : List Op).foldl step {}) 1 = some (.ok 200) := by decide

/-- The default template's sanitising is not injective: `a b`, `a_b` and `a/b` are spelled alike. -/
theorem sanitize_not_injective :
    PathNorm.sanitizeL false ['a', ' ', 'b'] = PathNorm.sanitizeL false ['a', '_', 'b'] ∧
    PathNorm.sanitizeL false ['a', '/', 'b'] = PathNorm.sanitizeL false ['a', '_', 'b'] := by decide

/-- percent-decoding of a path on its way to a URI (`%XX` with two hexadecimal digits becomes the character XX) -/
def hexVal (c : Char) : Option Nat :=
  if '0' ≤ c ∧ c ≤ '9' then some (c.toNat - '0'.toNat)
  else if 'a' ≤ c ∧ c ≤ 'f' then some (c.toNat - 'a'.toNat + 10)
  else if 'A' ≤ c ∧ c ≤ 'F' then some (c.toNat - 'A'.toNat + 10)
  else none

def unquote : List Char → List Char
  | '%' :: h :: l :: rest =>
    match hexVal h, hexVal l with
    | some a, some b => Char.ofNat (16 * a + b) :: unquote rest
    | _, _ => '%' :: unquote (h :: l :: rest)
  | c :: rest => c :: unquote rest
  | [] => []

/-- …and the step from the templated path to the artifact's URI decodes percent escapes, which is not injective either:
`a%41b` and `aAb` name one artifact (known finding C01-b). -/
theorem percent_decoding_not_injective :
    unquote "a%41b".toList = unquote "aAb".toList ∧ "a%41b" ≠ "aAb" := by decide

/-- non-vacuity of `Valid`: a path may be used again once the dataset that had it is removed -/
example : Valid {} [.put 1 7 100 5, .put 2 8 200 5, .remove 1, .put 3 7 300 9] := by
  simp [Valid, FreshOp, step, put, remove, List.lookup]

end C01

/-! ### How `FileTemplate.format` writes a field value, as translated from the source on every run (`Gen/TemplatePy.lean`) -/
namespace C01.Translated

/-- **One loop iteration of `FileTemplate.format` as translated is "append the literal, then the sanitised value"** —
`PathNorm.sanitizeL` is the sanitisation the model of the templated path (and the refutation `sanitize_not_injective`) uses. -/
theorem translated_writeField (output literal value spec : List Char) :
    Gen.TemplatePy.writeField output literal value spec =
      output ++ literal ++ PathNorm.sanitizeL (spec.contains '/') value := by
  unfold Gen.TemplatePy.writeField PathNorm.sanitizeL
  cases spec.contains '/'
  · simp only [Bool.false_eq_true, if_false, if_true, List.map_map]
    congr 1
    apply List.map_congr_left
    intro c _
    by_cases h1 : c = ' ' <;> simp [h1]
  · simp only [if_true, Bool.false_eq_true, if_false, List.map_map]
    congr 1
    apply List.map_congr_left
    intro c _
    simp

/-- C01-a on the translated code: with the default specification the values `a b`, `a/b` and `a_b` are written identically -/
theorem translated_collision (output literal : List Char) :
    Gen.TemplatePy.writeField output literal ['a', ' ', 'b'] [] = Gen.TemplatePy.writeField output literal ['a', '_', 'b'] [] ∧
    Gen.TemplatePy.writeField output literal ['a', '/', 'b'] [] = Gen.TemplatePy.writeField output literal ['a', '_', 'b'] [] := by
  simp [translated_writeField, PathNorm.sanitizeL]

/-- what the sanitisation does keep apart: values without blanks and slashes are written as they are -/
theorem translated_clean_value (output literal value spec : List Char) (h1 : ' ' ∉ value) (h2 : '/' ∉ value) :
    Gen.TemplatePy.writeField output literal value spec = output ++ literal ++ value := by
  rw [translated_writeField]
  congr 1
  refine (List.map_congr_left fun c hc => ?_).trans (List.map_id value)
  have hc1 : c ≠ ' ' := fun h => h1 (h ▸ hc)
  have hc2 : c ≠ '/' := fun h => h2 (h ▸ hc)
  simp [hc1, hc2]

end C01.Translated
