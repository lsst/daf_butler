import ButlerModel.Props.C02
import ButlerModel.Model.Mexists
import ButlerModel.Gen.ExistsPy
/-! # C10 — removal is complete and precise; existence reports tell the truth

`pruneDatasets(purge=True)` on registry plus datastore (`Registry.Repo`, over C02's registry model) removes the targets from every
table and nothing else, and the registry refuses to forget what a datastore still holds.  `C10.Mexists`: the bulk existence check
(model `Mexists`) answers for every dataset with records, however artifacts are shared.  `C10.Translated`: the flags and the truth
value of `Butler.exists` as translated from the source (`Gen/ExistsPy`). -/

namespace C10
open Registry C02

theorem removeDatasets_ok_state {s : St} {ids : List Nat} (h : ids.any (fun d => s.stored.contains d) = false) :
    removeDatasets s ids =
      ({ s with datasets := s.datasets.filter (fun d => !ids.contains d.id),
                mem := s.mem.filter (fun r => !ids.contains r.2) }, "ok") := by
  unfold removeDatasets
  rw [h]; rfl

theorem unstore_clears (r : Repo) (ids : List Nat) :
    ids.any (fun d => (r.unstoreMany ids).reg.stored.contains d) = false := by
  unfold Repo.unstoreMany
  apply List.any_eq_false.mpr
  intro x hx hc
  simp only [List.contains_eq_mem, decide_eq_true_eq, List.mem_filter, Bool.not_eq_eq_eq_not, Bool.not_true,
    decide_eq_false_iff_not] at hc
  exact hc.2 hx

/-- **purge removes exactly the targets**: it is always accepted, and afterwards every collection's
membership, the dataset table, the datastore records and the artifacts are the old ones minus the
targeted datasets — nothing else changes. -/
theorem purge_exact (r : Repo) (ids : List Nat) :
    r.purge ids =
      ({ reg := { r.reg with datasets := r.reg.datasets.filter (fun d => !ids.contains d.id),
                             mem := r.reg.mem.filter (fun row => !ids.contains row.2),
                             stored := r.reg.stored.filter (fun d => !ids.contains d) },
         artifacts := r.artifacts.filter (fun d => !ids.contains d) }, "ok") := by
  simp only [Repo.purge]
  rw [removeDatasets_ok_state (unstore_clears r ids)]
  rfl

/-- Membership of every collection after a purge = membership before, minus the targets. -/
theorem purge_members (r : Repo) (ids : List Nat) (c : Nat) :
    (r.purge ids).1.reg.members c = (r.reg.members c).filter (fun d => !ids.contains d) := by
  rw [purge_exact]
  simp only [St.members, List.filter_filter, List.filter_map]
  congr 1
  apply List.filter_congr
  intro x _
  simp [Bool.and_comm]

/-- A dataset that was not targeted keeps all its existence flags. -/
theorem purge_others_untouched (r : Repo) (ids : List Nat) (d : Nat) (hd : ¬ d ∈ ids) :
    (r.purge ids).1.existsFlags d = r.existsFlags d := by
  rw [purge_exact]
  unfold Repo.existsFlags St.ds
  rw [List.find?_filter_of_imp fun x hx => by simpa [beq_iff_eq.mp hx] using hd]
  simp [hd]

/-- A targeted dataset is gone from everywhere. -/
theorem purge_targets_gone (r : Repo) (ids : List Nat) (d : Nat) (hd : d ∈ ids) :
    (r.purge ids).1.existsFlags d = (false, false, false) := by
  rw [purge_exact]
  unfold Repo.existsFlags St.ds
  rw [List.find?_filter_eq_none fun x hx => by simpa [beq_iff_eq.mp hx] using hd]
  simp [hd]

/-- **The registry refuses to forget a dataset that a datastore still holds**, and the refusal
changes nothing. -/
theorem orphan_refused (s : St) (ids : List Nat) (d : Nat) (hd : d ∈ ids) (hs : s.stored.contains d = true) :
    removeDatasets s ids = (s, "err OrphanedRecordError") := by
  unfold removeDatasets
  have : ids.any (fun d => s.stored.contains d) = true := List.any_eq_true.mpr ⟨d, hd, hs⟩
  rw [this]; rfl

/-- purge keeps the registry invariants. -/
theorem purge_inv (r : Repo) (ids : List Nat) (h : Inv r.reg) : Inv (r.purge ids).1.reg := by
  rw [purge_exact]
  exact inv_effect (s := (r.unstoreMany ids).reg) (op := .removeDatasets ids) (h.of_eq rfl rfl rfl)
    (.removeDatasets (unstore_clears r ids))

/-- Existence flags are consistent: an artifact is only ever reported for a dataset the datastore knows. -/
theorem exists_flags_consistent (r : Repo) (d : Nat) : (r.existsFlags d).2.2 = true → (r.existsFlags d).2.1 = true :=
  fun h => (Bool.and_eq_true_iff.mp h).1

/-- External deletion of an artifact changes exactly the artifact flag of that dataset. -/
theorem extDelete_flags (r : Repo) (d d' : Nat) :
    (r.extDelete d).existsFlags d' =
      if d' = d then ((r.existsFlags d').1, (r.existsFlags d').2.1, false) else r.existsFlags d' := by
  unfold Repo.extDelete Repo.existsFlags
  by_cases h : d' = d <;> simp [h]

end C10

/-! # `mexists`: many datasets, shared and multiple artifacts -/
namespace C10.Mexists
open _root_.Mexists

theorem inner_fold_other (ar : Bool) (v : Bool) {ds : List Nat} {d : Nat} (h : d ∉ ds) (acc : Nat → Option Bool) :
    (ds.foldl (inner ar v) acc) d = acc d := by
  induction ds generalizing acc with
  | nil => rfl
  | cons x xs ih =>
    rw [List.foldl_cons, ih (List.not_mem_of_not_mem_cons h)]
    simp [inner, upd, List.ne_of_not_mem_cons h]

theorem inner_fold_mem (ar : Bool) (v : Bool) : ∀ (ds : List Nat) (acc : Nat → Option Bool) (d : Nat), d ∈ ds →
    (ds.foldl (inner ar v) acc) d = some (match acc d with | some prev => comb ar prev v | none => v) := by
  intro ds acc d h
  induction ds generalizing acc with
  | nil => cases h
  | cons x xs ih =>
    rw [List.foldl_cons]
    by_cases hx : d = x
    · subst hx
      by_cases hm : d ∈ xs
      · -- `d` is listed again: combining the same value a second time changes nothing
        rw [ih _ hm]
        simp only [inner, upd, ↓reduceIte]
        cases acc d with
        | none => cases ar <;> cases v <;> rfl
        | some p => cases ar <;> cases v <;> cases p <;> rfl
      · rw [inner_fold_other ar v hm]
        simp only [inner, upd, ↓reduceIte]
        cases acc d <;> rfl
    · rw [ih _ (List.mem_of_ne_of_mem hx h)]
      simp [inner, upd, hx]

/-- What the loops leave at one dataset: the values of its artifacts combined in order (AND if `ar`, else OR), from `o`. -/
def foldComb (ar : Bool) (o : Option Bool) (vs : List Bool) : Option Bool :=
  vs.foldl (fun o v => some (match o with | some p => comb ar p v | none => v)) o

theorem outer_fold (i : In) (ar : Bool) (d : Nat) (K : List Nat) (acc : Nat → Option Bool) :
    (K.foldl (fun acc u => (locationMap i u).foldl (inner ar (val i u)) acc) acc) d
      = foldComb ar (acc d) ((K.filter fun u => (locationMap i u).contains d).map (val i)) := by
  induction K generalizing acc with
  | nil => rfl
  | cons u K ih =>
    rw [List.foldl_cons, ih]
    by_cases h : d ∈ locationMap i u
    · have hc : (locationMap i u).contains d = true := by simpa using h
      simp only [List.filter_cons, hc, ↓reduceIte, List.map_cons, foldComb, List.foldl_cons]
      rw [inner_fold_mem ar (val i u) _ acc d h]
    · have hc : (locationMap i u).contains d = false := by simpa using h
      simp only [List.filter_cons, hc, Bool.false_eq_true, ↓reduceIte]
      rw [inner_fold_other ar (val i u) h]

theorem foldComb_some (ar : Bool) (vs : List Bool) (p : Bool) :
    foldComb ar (some p) vs = some (if ar then p && vs.all id else p || vs.any id) := by
  induction vs generalizing p with
  | nil => cases ar <;> simp [foldComb]
  | cons v vs ih =>
    have := ih (comb ar p v)
    simp only [foldComb, List.foldl_cons] at this ⊢
    rw [this]
    cases ar <;> simp [comb, Bool.and_assoc, Bool.or_assoc]

theorem foldComb_none (ar : Bool) {vs : List Bool} (h : vs ≠ []) :
    foldComb ar none vs = some (if ar then vs.all id else vs.any id) := by
  cases vs with
  | nil => exact absurd rfl h
  | cons v vs => exact (foldComb_some ar vs v).trans (by cases ar <;> simp)

/-- datasets are the keys of a dictionary -/
def DistinctKeys (i : In) : Prop := i.records.Pairwise fun a b => a.1 ≠ b.1

theorem mem_pairs {i : In} {d u : Nat} : (d, u) ∈ pairs i ↔ ∃ us, (d, us) ∈ i.records ∧ u ∈ us := by
  simp only [pairs, List.mem_flatMap, List.mem_map, Prod.mk.injEq]
  constructor
  · rintro ⟨⟨d', us⟩, hr, u', hu, rfl, rfl⟩; exact ⟨us, hr, hu⟩
  · rintro ⟨us, hr, hu⟩; exact ⟨(d, us), hr, u, hu, rfl, rfl⟩

theorem mem_locationMap {i : In} {d u : Nat} : d ∈ locationMap i u ↔ (d, u) ∈ pairs i := by
  simp only [locationMap, List.mem_map, List.mem_filter, beq_iff_eq]
  constructor
  · rintro ⟨⟨d', u'⟩, ⟨hp, hu⟩, rfl⟩; simp only at hu; subst hu; exact hp
  · intro h; exact ⟨(d, u), ⟨h, rfl⟩, rfl⟩

theorem mem_locationMap_iff {i : In} (hd : DistinctKeys i) {d : Nat} {us : List Nat} (hr : (d, us) ∈ i.records) (u : Nat) :
    d ∈ locationMap i u ↔ u ∈ us := by
  rw [mem_locationMap, mem_pairs]
  refine ⟨fun ⟨us', hr', hu⟩ => ?_, fun hu => ⟨us, hr, hu⟩⟩
  cases List.Pairwise.eq_of_key_eq hd hr hr' rfl
  exact hu

/-- Combining over the artifacts of `K` that are among `us` is combining over `us`: order and repetition do not matter to AND / OR. -/
theorem agg_filter_set (ar : Bool) {K us : List Nat} (f : Nat → Bool) (hsub : ∀ u ∈ us, u ∈ K) :
    (if ar then ((K.filter fun u => us.contains u).map f).all id else ((K.filter fun u => us.contains u).map f).any id)
      = if ar then us.all f else us.any f := by
  have hmem : ∀ u, u ∈ K.filter (fun u => us.contains u) ↔ u ∈ us := fun u => by
    simp only [List.mem_filter, List.contains_eq_mem, decide_eq_true_eq]
    exact ⟨fun h => h.2, fun h => ⟨hsub u h, h⟩⟩
  cases ar
  · rw [if_neg Bool.false_ne_true, if_neg Bool.false_ne_true, List.any_map, Bool.eq_iff_iff]
    simp only [List.any_eq_true, hmem, Function.comp, id]
  · rw [if_pos rfl, if_pos rfl, List.all_map, Bool.eq_iff_iff]
    simp only [List.all_eq_true, hmem, Function.comp, id]

/-- **Every dataset with records gets its answer, and the right one**: all (or any) of its artifacts
exist — however many other datasets share those artifacts. -/
theorem process_correct (i : In) (hd : DistinctKeys i) (ar : Bool) (d : Nat) (us : List Nat) (hr : (d, us) ∈ i.records) (hne : us ≠ []) :
    process i ar d = some (if ar then us.all (val i) else us.any (val i)) := by
  unfold process
  rw [outer_fold]
  have hfilter : (keys i).filter (fun u => (locationMap i u).contains d) = (keys i).filter (fun u => us.contains u) :=
    List.filter_congr fun u _ => by simp only [List.contains_eq_mem, mem_locationMap_iff hd hr]
  rw [hfilter]
  have hsub : ∀ u ∈ us, u ∈ keys i := by
    intro u hu
    simp only [keys, List.mem_eraseDups, List.mem_map]
    exact ⟨(d, u), mem_pairs.mpr ⟨us, hr, hu⟩, rfl⟩
  have hne' : ((keys i).filter fun u => us.contains u).map (val i) ≠ [] := by
    obtain ⟨u, hu⟩ := List.exists_mem_of_ne_nil us hne
    exact List.ne_nil_of_mem (List.mem_map_of_mem (List.mem_filter.mpr ⟨hsub u hu, List.contains_iff_mem.mpr hu⟩))
  rw [foldComb_none ar hne', agg_filter_set ar (val i) hsub]

/-- a dataset without records is not in the result (the caller then treats it as unknown) -/
theorem process_unknown (i : In) (ar : Bool) (d : Nat) (h : ∀ us, (d, us) ∈ i.records → us = []) : process i ar d = none := by
  unfold process
  rw [outer_fold]
  have : (keys i).filter (fun u => (locationMap i u).contains d) = [] := by
    rw [List.filter_eq_nil_iff]
    intro u _
    simp only [List.contains_eq_mem, decide_eq_true_eq, mem_locationMap, mem_pairs]
    rintro ⟨us, hr, hu⟩
    exact List.not_mem_nil (h us hr ▸ hu)
  rw [this]
  rfl

/-- a URI some dataset needs checked (no cache hit for it) gets the answer already known, else the
file system's -/
theorem val_checked (i : In) (d u : Nat) (hp : (d, u) ∈ pairs i) (hn : proxied i (d, u) = false) :
    val i u = (match i.known u with | some b => b | none => i.fs u) := by
  have : (toCheck i).contains u = true := by
    simp only [toCheck, List.contains_eq_mem, List.mem_map, List.mem_filter, decide_eq_true_eq]
    exact ⟨(d, u), ⟨hp, by simp [hn]⟩, rfl⟩
  unfold val
  rw [if_pos this]
  rfl

/-- without a local cache every URI is really checked -/
theorem val_no_cache {i : In} (hc : i.cacheNonEmpty = false) {d u : Nat} (hp : (d, u) ∈ pairs i) :
    val i u = (match i.known u with | some b => b | none => i.fs u) :=
  val_checked i d u hp (by simp [proxied, hc])

/-- **`mexists` tells the truth** (no local cache, nothing pre-answered): a dataset exists exactly
when the records know it and every one of its artifacts is on the file system. -/
theorem mexists_truth (i : In) (hd : DistinctKeys i) (hc : i.cacheNonEmpty = false) (hk : ∀ u, i.known u = none)
    (d : Nat) (us : List Nat) (hr : (d, us) ∈ i.records) (hne : us ≠ []) :
    mexists i d = us.all i.fs := by
  unfold mexists
  rw [process_correct i hd true d us hr hne, if_pos rfl, Option.getD_some]
  exact List.all_congr_of_mem fun u hu => by rw [val_no_cache hc (mem_pairs.mpr ⟨us, hr, hu⟩), hk u]

theorem mexists_unknown (i : In) (d : Nat) (h : ∀ us, (d, us) ∈ i.records → us = []) : mexists i d = false := by
  simp [mexists, process_unknown i true d h]

/-- Finding C10-a, the code as it was given: of two datasets stored in one file only the one listed
last got an answer; the other was reported as not stored although its file is there. -/
theorem old_code_loses_sharers :
    let i : In := { records := [(1, [7]), (2, [7])], cacheNonEmpty := false, cached := fun _ _ => false, known := fun _ => none, fs := fun _ => true }
    processOld i true 1 = none ∧ processOld i true 2 = some true ∧ process i true 1 = some true ∧ process i true 2 = some true := by
  decide

/-- non-vacuity: shared artifacts, a dataset in two files one of which is missing, a pre-answered URI -/
example :
    let i : In := { records := [(1, [7]), (2, [7, 8]), (3, [9]), (4, [])], cacheNonEmpty := false, cached := fun _ _ => false,
                    known := fun u => if u = 9 then some false else none, fs := fun u => u != 8 }
    (process i true 1, process i true 2, process i false 2, process i true 3, process i true 4) = (some true, some false, some true, some false, none) := by
  decide

end C10.Mexists

/-! ### `Butler.exists`: the flags and their truth value, as translated from the source on every run (`Gen/ExistsPy.lean`)

`start reg` is what the head of `DirectButler.exists` has gathered when its tail begins: `RECORDED` exactly when the registry has
the dataset (`existence |= DatasetExistence.RECORDED` under `registry_ref is not None`, or after a successful lookup).  The three
datastore-side inputs are the answers of `datastore.knows`, `datastore.exists` and the caller's `full_check`.  All quantifiers are
over Booleans, so each theorem is proved by exhausting the cases (sixteen at most) in the kernel. -/
namespace C10.Translated
open Gen.ExistsPy

def start (reg : Bool) : Nat := if reg then RECORDED else UNRECOGNIZED

def has (f bit : Nat) : Bool := f &&& bit != 0

def flags (reg ds art full : Bool) : Nat := existsTail (start reg) ds art full

/-- **The reported flags agree with the three facts**: RECORDED exactly when the registry knows the dataset, DATASTORE exactly when
the datastore knows it, and — in a full check — the artifact flag exactly when the artifact is there; a quick check never claims
the artifact. -/
theorem exists_flags (reg ds art full : Bool) :
    has (flags reg ds art full) RECORDED = reg ∧ has (flags reg ds art full) DATASTORE = ds ∧
    has (flags reg ds art full) ARTIFACT = (full && art) := by
  cases reg <;> cases ds <;> cases art <;> cases full <;> decide

/-- **Truth value**: the result of `exists` is true exactly when registry and datastore both know the dataset and (in a full
check) the artifact is present. -/
theorem exists_truth (reg ds art full : Bool) :
    boolPy (flags reg ds art full) = (reg && ds && (!full || art)) := by
  cases reg <;> cases ds <;> cases art <;> cases full <;> decide

/-- a dataset nobody knows and whose artifact is absent is UNRECOGNIZED in both forms of the check (no "assumed" flag out of nothing) -/
theorem unknown_is_unrecognized (full : Bool) : flags false false false full = UNRECOGNIZED := by
  cases full <;> decide

/-- the flag values are distinct bits and the two "exists" combinations are what the documentation says -/
theorem flag_table : RECORDED = 1 ∧ DATASTORE = 2 ∧ ARTIFACT = 4 ∧ ASSUMED = 8 ∧
    KNOWN = RECORDED ||| DATASTORE ||| ASSUMED ∧ VERIFIED = RECORDED ||| DATASTORE ||| ARTIFACT := by decide

example : flags true true false true = 3 ∧ boolPy 3 = false ∧ flags true true true false = KNOWN := by decide

end C10.Translated
