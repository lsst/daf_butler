import ButlerModel.Model.RegCache
import ButlerModel.Model.Cache
import ButlerModel.Gen.CachePy
import ButlerModel.Gen.TogglePy
import ButlerModel.Lemmas.Sort
import ButlerModel.Lemmas.List
/-! # C17 — caches never change an answer and stay within their configured bounds

`C17`: the file cache (`Model/Cache.lean`): `CacheRegistry` bookkeeping, and the bound each mode of `_expire_cache` leaves, for
every registry content, threshold and clock value.  `C17.Reg`: reads through the registry's caches (`Model/RegCache.lean`)
answer as the database does.  `C17.Translated`, `C17.Toggle`: `_expire_cache` and `_CacheToggle` as translated from the source. -/
namespace C17
open Cache

/-- `_sort_cache` is the stable insertion sort of `Model/Paging.lean` (C16) on `ctime`. -/
theorem sortCache_eq (es : List Entry) : sortCache es = Paging.sortBy (fun a b => a.ctime < b.ctime) es := by
  unfold sortCache Paging.sortBy
  congr
  funext e l
  induction l with
  | nil => rfl
  | cons x xs ih => simp [insertSorted, Paging.insertBy, ih]

theorem sortCache_perm (es : List Entry) : (sortCache es).Perm es :=
  sortCache_eq es ▸ Paging.sortBy_perm _ es

theorem sortCache_sorted (es : List Entry) : (sortCache es).Pairwise (fun a b => a.ctime ≤ b.ctime) := by
  rw [sortCache_eq]
  refine (Paging.sortBy_sorted _ ?_ ?_ es).imp (by simp)
  · simp only [decide_eq_false_iff_not]; omega
  · simp only [decide_eq_true_eq, decide_eq_false_iff_not]; omega

def sumSizes (es : List Entry) : Nat := (es.map (·.size)).sum

/-- The bookkeeping of `CacheRegistry`: keys are distinct and `_size` is the sum of the entry sizes. -/
def RegOK (r : Reg) : Prop := (r.entries.map (·.key)).Nodup ∧ r.size = sumSizes r.entries

theorem pop_entries (r : Reg) (k : Nat) : (r.pop k).entries = r.entries.filter (·.key != k) := by
  fun_cases Reg.pop r k with
  | case1 h =>  -- no entry has the key
    exact (List.filter_eq_self.mpr fun a ha => by simpa using List.find?_eq_none.mp h a ha).symm
  | case2 => rfl

theorem removeKeys_entries (disk : List Entry) (r : Reg) (ks : List Nat) :
    (removeKeys disk r ks).2.entries = r.entries.filter (fun e => !ks.contains e.key) := by
  show (ks.foldl Reg.pop r).entries = _
  induction ks generalizing r with
  | nil => exact (List.filter_eq_self.mpr fun _ _ => rfl).symm
  | cons k ks ih =>
    rw [List.foldl_cons, ih, pop_entries, List.filter_filter]
    congr 1
    funext e
    rw [List.contains_cons, Bool.not_or, Bool.and_comm]
    rfl

theorem mem_removeKeys {disk : List Entry} {r : Reg} {ks : List Nat} {e : Entry} :
    e ∈ (removeKeys disk r ks).2.entries ↔ e ∈ r.entries ∧ e.key ∉ ks := by
  simp [removeKeys_entries]

theorem removeKeys_nil (disk : List Entry) (r : Reg) : removeKeys disk r [] = (disk, r) := by
  simp [removeKeys]

theorem removeKeys_cons (disk : List Entry) (r : Reg) (k : Nat) (ks : List Nat) :
    removeKeys disk r (k :: ks) = removeKeys (removeKeys disk r [k]).1 (removeKeys disk r [k]).2 ks := by
  simp only [removeKeys, List.foldl_cons, List.foldl_nil, List.filter_filter]
  congr 1
  apply List.filter_congr
  intro e _
  simp [Bool.and_comm]

theorem sumSizes_filter_ne (es : List Entry) (e : Entry) (he : e ∈ es) (hn : (es.map (·.key)).Nodup) :
    sumSizes es = sumSizes (es.filter (·.key != e.key)) + e.size := by
  induction es with
  | nil => cases he
  | cons x xs ih =>
    by_cases hk : x.key = e.key
    · -- `x` is `e`, and no entry of `xs` has its key
      obtain rfl : x = e := List.Nodup.eq_of_key_eq hn List.mem_cons_self he hk
      have : xs.filter (·.key != x.key) = xs := List.filter_eq_self.mpr fun a ha => by
        simpa using fun hc => (List.nodup_cons.mp hn).1 (List.mem_map.mpr ⟨a, ha, hc⟩)
      simp [sumSizes, this]; omega
    · have := ih ((List.mem_cons.mp he).resolve_left fun h => hk (h ▸ rfl)) (List.nodup_cons.mp hn).2
      simp [sumSizes, hk] at this ⊢; omega

theorem pop_ok (r : Reg) (k : Nat) (h : RegOK r) : RegOK (r.pop k) := by
  refine ⟨pop_entries r k ▸ h.1.map_filter _, ?_⟩
  fun_cases Reg.pop r k with
  | case1 => exact h.2
  | case2 e he =>  -- `e` is the entry popped
    obtain rfl : e.key = k := by simpa using List.find?_some he
    have := sumSizes_filter_ne r.entries e (List.mem_of_find?_eq_some he) h.1
    simp only [h.2]; omega

theorem foldl_pop_ok (ks : List Nat) (r : Reg) (h : RegOK r) : RegOK (ks.foldl Reg.pop r) :=
  List.foldlRecOn ks Reg.pop h fun r hr k _ => pop_ok r k hr

theorem set_ok (r : Reg) (e : Entry) (h : RegOK r) (hnew : ∀ x ∈ r.entries, x.key ≠ e.key) : RegOK (r.set e) := by
  refine ⟨?_, by simp [Reg.set, sumSizes, h.2]⟩
  simp only [Reg.set, List.map_append, List.map_cons, List.map_nil]
  refine List.nodup_append.mpr ⟨h.1, by simp, fun a ha b hb => ?_⟩
  obtain ⟨x, hx, rfl⟩ := List.mem_map.mp ha
  rw [List.mem_singleton.mp hb]
  exact hnew x hx

/-! ## bounds after expiry, in each of the four modes of `_expire_cache` (for whatever registry its scan leaves) -/

/-- `files` mode: at most `thr` files remain. -/
theorem expire_files (thr now : Int) (disk : List Entry) (r0 : Reg) (hthr : 0 ≤ thr) :
    ((expire .files thr now disk r0).2.entries.length : Int) ≤ thr := by
  simp only [expire]
  generalize scan disk r0 = r
  split
  · rw [removeKeys_entries]
    have := List.length_filter_not_contains_take_le (·.key) (sortCache_perm r.entries) (r.entries.length - thr : Int).toNat
    omega
  · simp only; omega

/-- `age` mode: after expiry no remaining entry is older than the threshold — for every clock value
(also ages beyond one day). -/
theorem expire_age (thr now : Int) (disk : List Entry) (r0 : Reg) :
    ∀ e ∈ (expire .age thr now disk r0).2.entries, now - e.ctime ≤ thr := by
  simp only [expire]
  generalize scan disk r0 = r
  intro e he
  obtain ⟨hmem, hkey⟩ := mem_removeKeys.mp he
  -- `tooOld` passes down to older entries, so on the sorted list `takeWhile` has taken every entry that is too old
  have hold : tooOld now thr e ≠ true := fun h => hkey <| List.mem_map_of_mem <|
    List.mem_takeWhile_of_pairwise (sortCache_sorted r.entries)
      (fun a b hab hb => by simp only [tooOld, decide_eq_true_eq] at hb ⊢; omega)
      ((sortCache_perm r.entries).mem_iff.mpr hmem) h
  simpa [tooOld] using hold

/-- The `size` loop stops with the tracked size within the threshold, or runs through `l` and leaves no entry with a key of `l`. -/
theorem sizeLoop_spec (thr : Nat) (l : List Entry) (s : List Entry × Reg) :
    (sizeLoop thr l s).2.size ≤ thr ∨
      ∀ e ∈ (sizeLoop thr l s).2.entries, e ∈ s.2.entries ∧ ¬ e.key ∈ l.map (·.key) := by
  fun_induction sizeLoop thr l s with
  | case1 s => exact .inr fun e he => ⟨he, by simp⟩
  | case2 x xs disk r disk' r' _ hle => exact .inl hle  -- the loop stops after `x`
  | case3 x xs disk r disk' r' hrem _ ih =>  -- it goes on
    refine ih.imp id fun h e he => ?_
    obtain ⟨h1, h2⟩ := h e he
    obtain ⟨h3, h4⟩ := mem_removeKeys.mp (hrem ▸ h1 : e ∈ (removeKeys disk r [x.key]).2.entries)
    rw [List.map_cons, List.mem_cons, not_or]
    exact ⟨h3, by simpa using h4, h2⟩

/-- `size` mode: the tracked size ends within the threshold, or the cache is empty. -/
theorem expire_size (thr now : Int) (disk : List Entry) (r0 : Reg) :
    ((expire .size thr now disk r0).2.size : Int) ≤ max thr 0 ∨ (expire .size thr now disk r0).2.entries = [] := by
  simp only [expire]
  generalize scan disk r0 = r
  split
  · refine (sizeLoop_spec thr.toNat (sortCache r.entries) (disk, r)).imp (by omega) fun h => ?_
    -- every remaining entry would be one whose key the loop has not come to, and it has come to all
    exact List.eq_nil_iff_forall_not_mem.mpr fun e he =>
      (h e he).2 (List.mem_map_of_mem ((sortCache_perm r.entries).mem_iff.mpr (h e he).1))
  · left; simp only; omega

theorem mem_refsInOrder {l : List Entry} {d : Nat} : d ∈ refsInOrder l ↔ ∃ e ∈ l, e.ref = d := by
  induction l with
  | nil => simp [refsInOrder]
  | cons x xs ih =>
    simp only [refsInOrder, List.mem_cons, List.mem_filter, bne_iff_ne, ne_eq, ih, exists_eq_or_imp]
    by_cases hd : d = x.ref
    · simp [hd]
    · simp [hd, Ne.symm hd]

theorem refsInOrder_concat (l : List Entry) (e : Entry) :
    refsInOrder (l ++ [e]) = if e.ref ∈ refsInOrder l then refsInOrder l else refsInOrder l ++ [e.ref] := by
  induction l with
  | nil => rfl
  | cons x xs ih =>
    simp only [List.cons_append, refsInOrder, ih, List.mem_cons, List.mem_filter, bne_iff_ne, ne_eq]
    by_cases hx : e.ref = x.ref
    · split <;> simp [hx, List.filter_append]
    · split <;> simp [List.filter_append, *]

theorem refsInOrder_nodup (l : List Entry) : (refsInOrder l).Nodup := by
  induction l with
  | nil => exact List.nodup_nil
  | cons x xs ih =>
    refine List.nodup_cons.mpr ⟨fun h => ?_, ih.filter _⟩
    simpa using (List.mem_filter.mp h).2

theorem refsInOrder_length_le {a : List Entry} {l : List Nat} (h : ∀ e ∈ a, e.ref ∈ l) :
    (refsInOrder a).length ≤ l.length :=
  (refsInOrder_nodup a).length_le_of_subset fun d hd => by
    obtain ⟨e, he, rfl⟩ := mem_refsInOrder.mp hd
    exact h e he

theorem refsInOrder_length_of_perm {a b : List Entry} (h : a.Perm b) : (refsInOrder a).length = (refsInOrder b).length :=
  Nat.le_antisymm (refsInOrder_length_le fun e he => mem_refsInOrder.mpr ⟨e, h.mem_iff.mp he, rfl⟩)
    (refsInOrder_length_le fun e he => mem_refsInOrder.mpr ⟨e, h.mem_iff.mpr he, rfl⟩)

/-- `datasets` mode: at most `thr` distinct datasets remain cached. -/
theorem expire_datasets (thr now : Int) (disk : List Entry) (r0 : Reg) (hthr : 0 ≤ thr) :
    ((refsInOrder (expire .datasets thr now disk r0).2.entries).length : Int) ≤ thr := by
  simp only [expire]
  generalize scan disk r0 = r
  split
  · generalize hn : ((refsInOrder (sortCache r.entries)).length - thr : Int).toNat = n
    refine Int.le_trans (Int.ofNat_le.mpr (refsInOrder_length_le
      (l := (refsInOrder (sortCache r.entries)).drop n) fun e he => ?_)) (by rw [List.length_drop]; omega)
    -- the dataset of a remaining entry is not among the first `n`, or the entry's key would have been removed
    obtain ⟨hmem, hkey⟩ := mem_removeKeys.mp he
    have hes : e ∈ sortCache r.entries := (sortCache_perm r.entries).mem_iff.mpr hmem
    have hd : e.ref ∈ refsInOrder (sortCache r.entries) := mem_refsInOrder.mpr ⟨e, hes, rfl⟩
    rw [← List.take_append_drop n (refsInOrder (sortCache r.entries))] at hd
    refine (List.mem_append.mp hd).resolve_left fun h => hkey ?_
    simp only [List.mem_map, List.mem_flatMap, List.mem_filter, beq_iff_eq]
    exact ⟨e, ⟨e.ref, h, hes, rfl⟩, rfl⟩
  · have := refsInOrder_length_of_perm (sortCache_perm r.entries)
    simp only; omega

/-- The one-entry slack after an insertion: `move_to_cache` expires *before* adding, so in `files`
mode at most `thr + 1` files are cached afterwards. -/
theorem move_files_slack (thr now : Int) (e : Entry) (disk : List Entry) (r0 : Reg) (hthr : 0 ≤ thr) :
    ((moveToCache .files thr now e disk r0).2.entries.length : Int) ≤ thr + 1 := by
  have := expire_files thr now disk r0 hthr
  unfold moveToCache
  generalize expire .files thr now disk r0 = res at this
  obtain ⟨d1, r1⟩ := res
  simp only
  split
  · simp only at this ⊢; omega
  · simp only [Reg.set, List.length_append, List.length_cons, List.length_nil] at this ⊢; omega

example : (expire .files 1 100 [⟨1, 1, 10, 5⟩, ⟨2, 2, 20, 3⟩] { entries := [⟨1, 1, 10, 5⟩, ⟨2, 2, 20, 3⟩], size := 30 }).2.entries
    = [⟨1, 1, 10, 5⟩] := by decide
example : RegOK { entries := [⟨1, 1, 10, 5⟩, ⟨2, 2, 20, 3⟩], size := 30 } := by unfold RegOK sumSizes; decide

end C17

namespace C17.Reg
open RegCache

theorem coherent_init : Coherent {} := fun _ => Or.inl rfl

/-- Changing the cache at one key, to nothing or to what the database then holds there, keeps it coherent; the database
may change at that key too. -/
theorem coherent_upd {s : S} (h : Coherent s) (k : Nat) {db' : Nat → Nat} {v : Option Nat} {c : Bool}
    (hv : v = none ∨ v = some (db' k)) (hdb : ∀ q, q ≠ k → db' q = s.db q) :
    Coherent { db := db', cache := upd s.cache k v, ctx := c } := by
  intro q
  by_cases hq : q = k
  · simpa [upd, hq] using hv
  · simpa [upd, hq, hdb q hq] using h q

/-- **Every operation keeps the caches coherent with the database** (code as repaired). -/
theorem coherent_step (s : S) (op : Op) (h : Coherent s) : Coherent (step true true s op).1 := by
  fun_cases step true true s op with
  | case1 => exact h  -- `enter`
  | case2 => exact fun _ => Or.inl rfl  -- `exit`
  | case3 k v => exact coherent_upd h k (.inl rfl) fun q hq => by simp [upd, hq]  -- `write`
  | case4 | case6 => exact h  -- a `read` answered from the cache, or outside a caching context
  | case5 k => exact coherent_upd h k (.inr rfl) fun _ _ => rfl  -- a `read` that fills the cache
  | case7 => exact fun _ => Or.inl rfl  -- `rollback`

theorem coherent_run (ops : List Op) (s : S) (h : Coherent s) : Coherent (run true true s ops) := by
  induction ops generalizing s with
  | nil => exact h
  | cons op ops ih => exact ih _ (coherent_step s op h)

/-- **A cached client gets the database's answer**: after any history of context entries and exits,
writes, reads and rolled-back transactions, a read returns exactly what the database holds — the
client always sees its own completed writes, and never a rolled-back or stale value. -/
theorem read_returns_db (ops : List Op) (k : Nat) :
    (step true true (run true true {} ops) (.read k)).2 = (run true true {} ops).db k := by
  have h := coherent_run ops {} coherent_init k
  simp only [step]
  rcases h with h | h
  · simp only [h]; split <;> rfl
  · simp [h]

/-- Regression witness of the earlier code (C17-b): the summary cached before the client's own write
hid that write. -/
theorem old_code_hides_own_write :
    (step false true (run false true {} [.enter, .read 1, .write 1 7]) (.read 1)).2 = 0 ∧
    (run false true {} [.enter, .read 1, .write 1 7]).db 1 = 7 := by decide

/-- Regression witness of C07-d: a value cached inside a transaction that was then rolled back. -/
theorem old_code_keeps_rolled_back_value :
    (step true false (run true false {} [.enter, .write 1 7, .read 1, .rollback (fun _ => 0)]) (.read 1)).2 = 7 := by decide

end C17.Reg

/-! ## T-tie: `_expire_cache` **as translated from `datastore/cache_manager.py` on every run**
(`translate/gen_cache.py`, one definition per mode; `scan_cache`, `_remove_from_cache` and `_sort_cache` are the
hand-modelled effects of `Model/Cache.lean`; the dict of lists of the `datasets` branch is `Py.Groups`).  Each mode is
`Cache.expire` in that mode, which the bounds above are about. -/
namespace C17.Translated
open Cache

/-- `files` mode as written in the source is the model's. -/
theorem expire_files_eq (thr now : Int) (disk : List Entry) (r : Reg) :
    Gen.CachePy.expire_files thr now disk r = expire .files thr now disk r := by
  simp only [Gen.CachePy.expire_files, expire, decide_eq_true_eq]

/-- The `age` loop of the source, for any loop body that leaves a stopped state alone and, while running, removes an entry
that is too old and stops at the first that is not. -/
theorem age_fold (thr now : Int) (step : List Entry × Reg × Bool → Entry → List Entry × Reg × Bool)
    (hstop : ∀ disk r e, step (disk, r, true) e = (disk, r, true))
    (hrun : ∀ disk r e, step (disk, r, false) e =
      if tooOld now thr e then ((removeKeys disk r [e.key]).1, (removeKeys disk r [e.key]).2, false) else (disk, r, true))
    (es disk : List Entry) (r : Reg) :
    ((es.foldl step (disk, r, false)).1, (es.foldl step (disk, r, false)).2.1) =
      removeKeys disk r ((es.takeWhile (tooOld now thr)).map (·.key)) := by
  induction es generalizing disk r with
  | nil => simp [removeKeys_nil]
  | cons e es ih =>
    rw [List.foldl_cons, hrun, List.takeWhile_cons]
    cases tooOld now thr e with
    | true =>
      simp only [↓reduceIte, List.map_cons, ih]
      exact (removeKeys_cons disk r e.key _).symm
    | false => simp [List.foldl_fixed (hstop disk r), removeKeys_nil]

/-- **`age` mode as written in the source** (oldest first, stop at the first entry that is young enough)
removes exactly the model's set: the entries older than the threshold. -/
theorem expire_age_eq (thr now : Int) (disk : List Entry) (r : Reg) :
    Gen.CachePy.expire_age thr now disk r = expire .age thr now disk r := by
  simp only [Gen.CachePy.expire_age, expire]
  exact age_fold thr now _ (fun _ _ _ => rfl) (fun _ _ _ => rfl) _ disk _

/-- The `size` loop of the source, for any loop body that leaves a stopped state alone and, while running, removes the entry
and stops once the tracked size is within the threshold. -/
theorem size_fold (thr : Int) (h0 : 0 ≤ thr) (step : List Entry × Reg × Bool → Entry → List Entry × Reg × Bool)
    (hstop : ∀ disk r e, step (disk, r, true) e = (disk, r, true))
    (hrun : ∀ disk r e, step (disk, r, false) e =
      if decide (((removeKeys disk r [e.key]).2.size : Int) ≤ thr) then
        ((removeKeys disk r [e.key]).1, (removeKeys disk r [e.key]).2, true)
      else ((removeKeys disk r [e.key]).1, (removeKeys disk r [e.key]).2, false))
    (es disk : List Entry) (r : Reg) :
    ((es.foldl step (disk, r, false)).1, (es.foldl step (disk, r, false)).2.1) = sizeLoop thr.toNat es (disk, r) := by
  induction es generalizing disk r with
  | nil => rfl
  | cons e es ih =>
    rw [List.foldl_cons, hrun, sizeLoop]
    by_cases h : (removeKeys disk r [e.key]).2.size ≤ thr.toNat
    · rw [if_pos (decide_eq_true (by omega)), List.foldl_fixed (hstop _ _)]
      simp [h]
    · rw [if_neg (by simpa using by omega), ih]
      simp [h]

/-- **`size` mode as written in the source** (remove oldest first until the tracked size is within the
threshold) is the model's, for every non-negative threshold. -/
theorem expire_size_eq (thr now : Int) (h0 : 0 ≤ thr) (disk : List Entry) (r : Reg) :
    Gen.CachePy.expire_size thr now disk r = expire .size thr now disk r := by
  simp only [Gen.CachePy.expire_size, expire]
  by_cases h : ((scan disk r).size : Int) > thr
  · rw [if_pos (decide_eq_true h), if_pos h]
    exact size_fold thr h0 _ (fun _ _ _ => rfl) (fun _ _ _ => rfl) _ disk _
  · rw [if_neg (by simpa using h), if_neg h]

section Datasets
open Py
theorem groupKeys_append (g : Groups) (k v : Nat) :
    groupKeys (groupAppend g k v) = if k ∈ groupKeys g then groupKeys g else groupKeys g ++ [k] := by
  fun_induction groupAppend g k v with
  | case1 k v => rfl
  | case2 vs rest k v => simp [groupKeys]  -- the first group is `k`'s
  | case3 k' vs rest k v h ih =>
    simp only [groupKeys, List.map_cons, List.mem_cons, Ne.symm h, false_or] at ih ⊢
    rw [ih]
    split <;> simp [*]

theorem groupGet_append (g : Groups) (k v d : Nat) :
    groupGet (groupAppend g k v) d = if d = k then groupGet g k ++ [v] else groupGet g d := by
  fun_induction groupAppend g k v with
  | case1 k v => simp [groupGet, eq_comm]
  | case2 vs rest k v =>  -- the first group is `k`'s
    by_cases hd : k = d
    · simp [groupGet, hd]
    · simp [groupGet, hd, Ne.symm hd]
  | case3 k' vs rest k v h ih =>
    simp only [groupGet, ih]
    by_cases hd : k' = d
    · subst hd; simp [h]
    · simp [hd, h]

/-- Grouping the keys by dataset, one entry after the other: if `g` holds the groups of `pre`, the fold over `es` holds those
of `pre ++ es` — the datasets in order of first appearance, each with its keys in order. -/
theorem grp_spec (es pre : List Entry) (g : Groups) (hk : groupKeys g = refsInOrder pre)
    (hg : ∀ d, groupGet g d = (pre.filter (·.ref == d)).map (·.key)) :
    groupKeys (es.foldl (fun g e => groupAppend g e.ref e.key) g) = refsInOrder (pre ++ es) ∧
      ∀ d, groupGet (es.foldl (fun g e => groupAppend g e.ref e.key) g) d =
        ((pre ++ es).filter (·.ref == d)).map (·.key) := by
  induction es generalizing pre g with
  | nil => simpa using ⟨hk, hg⟩
  | cons e es ih =>
    rw [List.append_cons]
    refine ih (pre ++ [e]) _ (by rw [groupKeys_append, hk, refsInOrder_concat]) fun d => ?_
    rw [groupGet_append, hg, hg, List.filter_append, List.map_append]
    by_cases hd : d = e.ref
    · simp [hd]
    · simp [hd, Ne.symm hd]

/-- **`datasets` mode as written in the source** (group the keys by dataset in time order, drop the oldest datasets) is the
model's. -/
theorem expire_datasets_eq (thr now : Int) (disk : List Entry) (r : Reg) :
    Gen.CachePy.expire_datasets thr now disk r = expire .datasets thr now disk r := by
  obtain ⟨hk, hget⟩ := grp_spec (sortCache (scan disk r).entries) [] [] rfl fun _ => rfl
  have hlen := congrArg List.length hk
  rw [groupKeys, List.length_map] at hlen
  simp only [List.nil_append] at hk hget hlen
  simp only [Gen.CachePy.expire_datasets, expire, hlen, hk, hget, decide_eq_true_eq, List.map_flatMap]

end Datasets

/-- non-vacuity: three files of 10 bytes, threshold 15 bytes: the two oldest go -/
example :
    let es : List Entry := [⟨1, 1, 10, 5⟩, ⟨2, 2, 10, 3⟩, ⟨3, 3, 10, 9⟩]
    (Gen.CachePy.expire_size 15 100 es ⟨es, 30⟩).1.map (·.key) = [3] := by decide

end C17.Translated

/-! ### `_CacheToggle.enable`, translated (`Gen/TogglePy.lean`): once every caching context is left the cache is off

A client's use of caching contexts is a sequence of events: a context is entered, or the innermost open context is left — normally,
or because an exception is passing through it (which may be caught at any outer level, or not at all).  Python runs
`tryBody ∘ beforeTry` on entry; on a normal exit `afterYield`, then the `finally` block, then the statements after the `try`;
on an exceptional exit only the `finally` block. -/
namespace C17.Toggle
open Gen.TogglePy

inductive Ev where
  | enter
  | leave (exc : Bool)
  deriving DecidableEq, Repr

def enter (s : St) : St := tryBody (beforeTry s)
def leave (exc : Bool) (s : St) : St :=
  if exc then finallyBlock s else afterTry (finallyBlock (afterYield s))
def step (s : St) : Ev → St
  | .enter => enter s
  | .leave e => leave e s
def run (s : St) (evs : List Ev) : St := evs.foldl step s

/-- number of contexts open after the events, starting with `d` open ones; `none` when an event leaves a context that is not open -/
def opens : Int → List Ev → Option Int
  | d, [] => some d
  | d, .enter :: r => opens (d + 1) r
  | d, .leave _ :: r => if 0 < d then opens (d - 1) r else none

/-- the counter is the number of open contexts, and the cache is on exactly while one is open -/
def Inv (d : Int) (s : St) : Prop := s.depth = d ∧ 0 ≤ d ∧ (s.on = true ↔ 0 < d)

theorem enter_inv (d : Int) (s : St) (h : Inv d s) : Inv (d + 1) (enter s) := by
  obtain ⟨rfl, h2, h3⟩ := h
  simp only [Inv, enter, tryBody, beforeTry, beq_iff_eq]
  -- the cache is switched on with the outermost context, and is on already inside one
  split
  · exact ⟨rfl, by omega, by simp; omega⟩
  · exact ⟨rfl, by omega, by rw [h3]; omega⟩

theorem leave_inv (d : Int) (s : St) (e : Bool) (h : Inv d s) (hd : 0 < d) : Inv (d - 1) (leave e s) := by
  obtain ⟨rfl, h2, h3⟩ := h
  have key : Inv (s.depth - 1) (finallyBlock s) := by
    simp only [Inv, finallyBlock, beq_iff_eq]
    split
    · exact ⟨rfl, by omega, by simp; omega⟩
    · exact ⟨rfl, by omega, by rw [h3]; omega⟩
  -- `afterYield` and `afterTry` do nothing: either way of leaving is the `finally` block
  cases e <;> exact key

/-- **Every reachable state**: after any sequence of events in which only open contexts are left — whatever mix of normal and
exceptional exits — the counter equals the number of open contexts and the cache is on exactly while one is open. -/
theorem run_inv (evs : List Ev) : ∀ (d : Int) (s : St) (d' : Int), Inv d s → opens d evs = some d' → Inv d' (run s evs) := by
  intro d s d' h ho
  fun_induction opens d evs generalizing s with
  | case1 d => cases ho; exact h
  | case2 d r ih => exact ih (enter s) (enter_inv d s h) ho
  | case3 d e r hd ih => exact ih (leave e s) (leave_inv d s e h hd) ho  -- an open context is left
  | case4 => cases ho  -- none is open

theorem init_inv : Inv 0 init := by simp [Inv, init]

/-- **Once every caching context is left, the cache is off and the counter is back at zero** — also when some (or all) of the
contexts were left by an exception, caught at whatever level. -/
theorem all_left_cache_off (evs : List Ev) (h : opens 0 evs = some 0) : run init evs = init := by
  obtain ⟨h1, _, h3⟩ := run_inv evs 0 init 0 init_inv h
  cases hs : run init evs with
  | mk dp o =>
    simp only [hs, Int.lt_irrefl, iff_false, Bool.not_eq_true] at h1 h3
    rw [init, h1, h3]

/-- … and while a context is open the cache is on (the cache is what the context is for) -/
theorem open_cache_on (evs : List Ev) (d : Int) (h : opens 0 evs = some d) (hd : 0 < d) : (run init evs).on = true :=
  (run_inv evs 0 init d init_inv h).2.2.mpr hd

/-- non-vacuity: a nested context fails, the exception is caught inside the outer one, which then ends normally -/
example : opens 0 [.enter, .enter, .leave true, .leave false] = some 0 ∧
    run init [.enter, .enter, .leave true] = ⟨1, true⟩ := by decide

end C17.Toggle
