import ButlerModel.Model.Registry
import ButlerModel.Gen.SummaryPy
import ButlerModel.Lemmas.List
/-! # C02 — collections hold what the history says, one dataset per type + data ID

The registry tables and their operations (model `Registry`): the table invariants `Inv` hold after every history, whatever the
arguments; a refused operation changes nothing; a dataset keeps its type, data ID and run; TAGGED membership changes only through
`associate`, `disassociate` and removals.  `C02.Translated`: a collection summary built by the translated
`add_data_ids_generator` (`Gen/SummaryPy`, helpers in `Summary`) never rules out a collection that holds a matching dataset. -/

namespace C02
open Registry

/-- The table invariants. -/
structure Inv (s : St) : Prop where
  /-- UNIQUE (collection, dataset type, data ID) in the tag table. -/
  uniq : (s.mem.map (·.1)).Nodup
  /-- dataset ids are unique. -/
  ids : (s.datasets.map (·.id)).Nodup
  /-- every row describes an existing dataset with that type and data ID. -/
  rows : ∀ r ∈ s.mem, ∃ d ∈ s.datasets, d.id = r.2 ∧ d.ty = r.1.2.1 ∧ d.key = r.1.2.2
  /-- every dataset is a member of its RUN collection… -/
  inRun : ∀ d ∈ s.datasets, ((d.run, d.ty, d.key), d.id) ∈ s.mem
  /-- …which is a registered collection of type RUN. -/
  runType : ∀ d ∈ s.datasets, s.ctype d.run = some .run

theorem inv_init : Inv {} :=
  ⟨.nil, .nil, List.forall_mem_nil _, List.forall_mem_nil _, List.forall_mem_nil _⟩

/-- The invariants read the collections, the datasets and the tag table only. -/
theorem Inv.of_eq {s s' : St} (h : Inv s) (hc : s'.colls = s.colls) (hd : s'.datasets = s.datasets) (hm : s'.mem = s.mem) :
    Inv s' := by
  cases s
  cases s'
  subst hc hd hm
  exact ⟨h.uniq, h.ids, h.rows, h.inRun, h.runType⟩

/-- **No collection ever holds two datasets with the same dataset type and data ID.** -/
theorem unique_type_dataid (s : St) (h : Inv s) (r1 r2 : Row) (h1 : r1 ∈ s.mem) (h2 : r2 ∈ s.mem)
    (hk : r1.1 = r2.1) : r1 = r2 := h.uniq.eq_of_key_eq h1 h2 hk

theorem key_not_mem_of_find?_none {l : List Row} {k : Nat × Nat × Nat} (h : (l.find? (·.1 == k)).map (·.2) = none) :
    k ∉ l.map (·.1) := List.not_mem_map_of_find?_eq_none (Option.map_eq_none_iff.mp h)

theorem lookup_none_not_mem {s : St} {c ty key : Nat} (h : s.lookup c ty key = none) :
    (c, ty, key) ∉ s.mem.map (·.1) := key_not_mem_of_find?_none h

theorem ds_none_not_mem {s : St} {id : Nat} (h : s.ds id = none) : id ∉ s.datasets.map (·.id) :=
  List.not_mem_map_of_find?_eq_none h

theorem ds_some_mem {s : St} {id : Nat} {d : Dataset} (h : s.ds id = some d) : d ∈ s.datasets ∧ d.id = id :=
  ⟨List.mem_of_find?_eq_some h, by simpa using List.find?_some h⟩

theorem ctype_cons_other {s : St} {c c' : Nat} {t x : CType} (h : s.ctype c = none) (hx : s.ctype c' = some x) :
    ({ s with colls := (c, t) :: s.colls } : St).ctype c' = some x := by
  have hne : c ≠ c' := ne_of_apply_ne s.ctype (by simp [h, hx])
  unfold St.ctype at hx ⊢
  rwa [List.find?_cons_of_neg (by simpa using hne)]

theorem ctype_filter_other (s : St) {c c' : Nat} (hne : c' ≠ c) :
    ({ s with colls := s.colls.filter (·.1 != c) } : St).ctype c' = s.ctype c' := by
  unfold St.ctype
  rw [List.find?_filter_of_imp fun x hx => by simpa [beq_iff_eq.mp hx] using hne]

/-- the reply is one of the error replies -/
def isErr (r : String) : Bool := r != "ok" && r != "True" && r != "False"

/-- What an operation that is not refused, and not a repetition, does to the tables: those of the conditions under which the code
gets there that the proofs need, and the new state.  Every proof about `step` goes through `step_effect` and then looks at these ten cases only. -/
inductive Effect (s : St) : Op → St → Prop
  | regColl {c t} : s.ctype c = none → Effect s (.regColl c t) { s with colls := (c, t) :: s.colls }
  | regType {t defn} : Effect s (.regType t defn) { s with types := (t, defn) :: s.types }
  | add {op id ty key run} : op = .insert id ty key run ∨ op = .importDs id ty key run →
      s.ctype run = some .run → s.lookup run ty key = none → s.ds id = none → Effect s op (addDataset s id ty key run)
  | associate {c ds mem} : assocAll s c ds.reverse = .ok mem → Effect s (.associate c ds) { s with mem := mem }
  | disassociate {c ds} : s.ctype c = some .tagged →
      Effect s (.disassociate c ds) { s with mem := s.mem.filter fun r => !(r.1.1 == c && ds.contains r.2) }
  | removeDatasets {ds} : ds.any (fun d => s.stored.contains d) = false →
      Effect s (.removeDatasets ds) { s with datasets := s.datasets.filter (fun d => !ds.contains d.id),
                                             mem := s.mem.filter (fun r => !ds.contains r.2) }
  | removeCollection {c t gone} : s.ctype c = some t →
      gone = (if t == .run then (s.datasets.filter (·.run == c)).map (·.id) else []) →
      Effect s (.removeCollection c) { s with colls := s.colls.filter (·.1 != c),
                                              datasets := s.datasets.filter (fun d => !gone.contains d.id),
                                              mem := s.mem.filter (fun r => !(r.1.1 == c) && !gone.contains r.2),
                                              chains := s.chains.filter (·.1 != c) }
  | setChain {c kids} : Effect s (.setChain c kids) { s with chains := (c, kids) :: s.chains.filter (·.1 != c) }
  | store {id} : Effect s (.store id) { s with stored := id :: s.stored }
  | unstore {id} : Effect s (.unstore id) { s with stored := s.stored.filter (· != id) }

/-- Every operation either leaves the state as it was (a refusal, or a request that is already met) or has its `Effect` and says so.
Each operation is a tree of tests with the old state at every leaf but one; that one is the `Effect`, with the tests passed on
the way as its conditions. -/
theorem step_effect (s : St) (op : Op) :
    (step s op).1 = s ∨ (Effect s op (step s op).1 ∧ ((step s op).2 = "ok" ∨ (step s op).2 = "True")) := by
  cases op with
  | regColl c t =>
    simp only [step]
    fun_cases regColl s c t with
    | case1 | case2 => exact Or.inl rfl
    | case3 hn => exact Or.inr ⟨.regColl hn, Or.inr rfl⟩
  | regType t defn =>
    simp only [step]
    fun_cases regType s t defn with
    | case1 | case2 => exact Or.inl rfl
    | case3 => exact Or.inr ⟨.regType, Or.inr rfl⟩
  | insert id ty key run =>
    simp only [step]
    fun_cases Registry.insert s id ty key run with
    | case1 | case2 | case3 | case5 => exact Or.inl rfl
    | case4 _ hrun hc =>
      simp only [Bool.or_eq_true, not_or, Bool.not_eq_true, Option.isSome_eq_false_iff, Option.isNone_iff_eq_none] at hc
      exact Or.inr ⟨.add (.inl rfl) hrun hc.1 hc.2, Or.inl rfl⟩
  | importDs id ty key run =>
    simp only [step]
    fun_cases importDs s id ty key run with
    | case1 | case2 | case3 | case4 | case5 | case7 => exact Or.inl rfl
    | case6 _ hrun hnone hc =>
      simp only [Bool.not_eq_true, Option.isSome_eq_false_iff, Option.isNone_iff_eq_none] at hc
      exact Or.inr ⟨.add (.inr rfl) hrun hc hnone, Or.inl rfl⟩
  | associate c ds =>
    simp only [step]
    fun_cases associate s c ds with
    | case1 | case2 | case3 | case5 | case6 => exact Or.inl rfl
    | case4 _ _ mem hm => exact Or.inr ⟨.associate hm, Or.inl rfl⟩
  | disassociate c ds =>
    simp only [step]
    fun_cases disassociate s c ds with
    | case1 | case2 | case3 | case5 => exact Or.inl rfl
    | case4 _ hct => exact Or.inr ⟨.disassociate hct, Or.inl rfl⟩
  | removeDatasets ds =>
    simp only [step]
    fun_cases removeDatasets s ds with
    | case1 => exact Or.inl rfl
    | case2 hno => exact Or.inr ⟨.removeDatasets (Bool.eq_false_iff.mpr hno), Or.inl rfl⟩
  | removeCollection c =>
    simp only [step]
    fun_cases removeCollection s c with
    | case1 | case2 | case3 => exact Or.inl rfl
    | case4 t hct => exact Or.inr ⟨.removeCollection hct rfl, Or.inl rfl⟩
  | setChain c kids =>
    simp only [step]
    fun_cases setChain s c kids with
    | case1 => exact Or.inr ⟨.setChain, Or.inl rfl⟩
    | case2 => exact Or.inl rfl
  | store id =>
    simp only [step]
    fun_cases store s id with
    | case1 => exact Or.inr ⟨.store, Or.inl rfl⟩
    | case2 => exact Or.inl rfl
  | unstore id => exact Or.inr ⟨.unstore, Or.inl rfl⟩

/-- To show something of the state after an operation: show it of the old state and of every `Effect`. -/
theorem step_cases {P : St → Prop} (s : St) (op : Op) (h0 : P s) (h1 : ∀ s', Effect s op s' → P s') : P (step s op).1 := by
  rcases step_effect s op with e | ⟨e, _⟩
  · exact e.symm ▸ h0
  · exact h1 _ e

/-- **A refused operation changes nothing.** -/
theorem refusal_changes_nothing (s : St) (op : Op) (h : isErr (step s op).2 = true) : (step s op).1 = s := by
  rcases step_effect s op with e | ⟨_, e | e⟩
  · exact e
  all_goals (rw [e] at h; simp [isErr] at h)

theorem inv_add {s : St} (h : Inv s) {id ty key run : Nat} (hl : s.lookup run ty key = none) (hd : s.ds id = none)
    (hr : s.ctype run = some .run) : Inv (addDataset s id ty key run) where
  uniq := List.nodup_cons.mpr ⟨lookup_none_not_mem hl, h.uniq⟩
  ids := List.nodup_cons.mpr ⟨ds_none_not_mem hd, h.ids⟩
  rows := List.forall_mem_cons.mpr
    ⟨⟨⟨id, ty, key, run⟩, List.mem_cons_self, rfl, rfl, rfl⟩,
     fun r hr => (h.rows r hr).imp fun _ hd => ⟨List.mem_cons_of_mem _ hd.1, hd.2⟩⟩
  inRun := List.forall_mem_cons.mpr ⟨List.mem_cons_self, fun d hd => List.mem_cons_of_mem _ (h.inRun d hd)⟩
  runType := List.forall_mem_cons.mpr ⟨hr, h.runType⟩

/-- Taking rows and datasets out (and changing the collections) keeps the invariants as long as a row goes with its dataset
and a dataset that stays keeps its RUN row and its RUN collection. -/
theorem inv_shrink {s : St} (h : Inv s) {colls datasets mem chains}
    (hD : datasets.Sublist s.datasets) (hM : mem.Sublist s.mem)
    (hrows : ∀ r ∈ mem, ∀ d ∈ s.datasets, d.id = r.2 → d ∈ datasets)
    (hrun : ∀ d ∈ datasets, ((d.run, d.ty, d.key), d.id) ∈ mem ∧ ({ s with colls := colls } : St).ctype d.run = some .run) :
    Inv { s with colls := colls, datasets := datasets, mem := mem, chains := chains } := by
  refine ⟨h.uniq.sublist (hM.map _), h.ids.sublist (hD.map _), fun r hr => ?_, fun d hd => (hrun d hd).1,
    fun d hd => (hrun d hd).2⟩
  obtain ⟨d, hd, h1⟩ := h.rows r (hM.subset hr)
  exact ⟨d, hrows r hr d hd h1.1, h1⟩

theorem assocAll_spec {s : St} (h : Inv s) {c : Nat} {l : List Nat} {mem : List Row} (hm : assocAll s c l = .ok mem) :
    (mem.map (·.1)).Nodup ∧ (∀ r ∈ s.mem, r ∈ mem) ∧
      (∀ r ∈ mem, r ∈ s.mem ∨ (r.1.1 = c ∧ ∃ d ∈ s.datasets, d.id = r.2 ∧ d.ty = r.1.2.1 ∧ d.key = r.1.2.2)) := by
  fun_induction assocAll s c l generalizing mem with
  | case1 =>
    cases hm
    exact ⟨h.uniq, fun _ hr => hr, fun _ hr => Or.inl hr⟩
  | case2 | case3 | case6 => cases hm                  -- the refusals
  | case4 d rest mem0 h0 ds hds hnone ih =>            -- a new row
    cases hm
    have ih := ih h0
    have hdm := ds_some_mem hds
    exact ⟨List.nodup_cons.mpr ⟨key_not_mem_of_find?_none hnone, ih.1⟩,
      fun r hr => List.mem_cons_of_mem _ (ih.2.1 r hr),
      List.forall_mem_cons.mpr ⟨Or.inr ⟨rfl, ds, hdm.1, hdm.2, rfl, rfl⟩, ih.2.2⟩⟩
  | case5 d rest mem0 h0 ds hds d' _ _ ih =>           -- the row is there already
    cases hm
    exact ih h0

theorem inv_effect {s s' : St} {op : Op} (h : Inv s) (e : Effect s op s') : Inv s' := by
  cases e with
  | regColl hn => exact ⟨h.uniq, h.ids, h.rows, h.inRun, fun d hd => ctype_cons_other hn (h.runType d hd)⟩
  | regType => exact h.of_eq rfl rfl rfl
  | add _ hrun hl hd => exact inv_add h hl hd hrun
  | associate hm =>
    have sp := assocAll_spec h hm
    exact ⟨sp.1, h.ids, fun r hr => (sp.2.2 r hr).elim (h.rows r) (·.2), fun d hd => sp.2.1 _ (h.inRun d hd), h.runType⟩
  | @disassociate c _ hct =>
    refine inv_shrink (colls := s.colls) (chains := s.chains) h (List.Sublist.refl _) List.filter_sublist
      (fun _ _ d hd _ => hd) fun d hd => ⟨List.mem_filter.mpr ⟨h.inRun d hd, ?_⟩, h.runType d hd⟩
    -- the dataset's run is a RUN collection, `c` is TAGGED: the run row is never touched
    have hne : d.run ≠ c := ne_of_apply_ne s.ctype (by simp [h.runType d hd, hct])
    simp [hne]
  | removeDatasets =>
    refine inv_shrink (colls := s.colls) (chains := s.chains) h List.filter_sublist List.filter_sublist ?_ ?_
    · intro r hr d hd hid
      exact List.mem_filter.mpr ⟨hd, hid ▸ (List.mem_filter.mp hr).2⟩
    · intro d hd
      have hd' := List.mem_filter.mp hd
      exact ⟨List.mem_filter.mpr ⟨h.inRun d hd'.1, hd'.2⟩, h.runType d hd'.1⟩
  | @removeCollection c t gone hct hg =>
    -- datasets that survive do not live in `c`
    have surv : ∀ d ∈ s.datasets, (!gone.contains d.id) = true → d.run ≠ c := by
      intro d hd hnot hrun
      have hrt := h.runType d hd
      rw [hrun, hct] at hrt
      cases hrt
      simp only [hg, beq_self_eq_true, ↓reduceIte, Bool.not_eq_eq_eq_not, Bool.not_true, List.contains_eq_mem,
        decide_eq_false_iff_not, List.mem_map, List.mem_filter, beq_iff_eq, not_exists, not_and] at hnot
      exact hnot d ⟨hd, hrun⟩ rfl
    refine inv_shrink h List.filter_sublist List.filter_sublist ?_ ?_
    · intro r hr d hd hid
      have := (List.mem_filter.mp hr).2
      simp only [Bool.and_eq_true] at this
      exact List.mem_filter.mpr ⟨hd, hid ▸ this.2⟩
    · intro d hd
      have hd' := List.mem_filter.mp hd
      have hne := surv d hd'.1 hd'.2
      refine ⟨List.mem_filter.mpr ⟨h.inRun d hd'.1, ?_⟩, (ctype_filter_other s hne).trans (h.runType d hd'.1)⟩
      simp only [Bool.and_eq_true]
      exact ⟨by simp [hne], hd'.2⟩
  | setChain => exact h.of_eq rfl rfl rfl
  | store => exact h.of_eq rfl rfl rfl
  | unstore => exact h.of_eq rfl rfl rfl

/-- **Every operation, accepted or refused, keeps the invariants** (for all arguments, valid or not). -/
theorem inv_step (s : St) (h : Inv s) (op : Op) : Inv (step s op).1 :=
  step_cases s op h fun _ e => inv_effect h e

theorem inv_store (s : St) (h : Inv s) (id : Nat) : Inv (store s id).1 := inv_step s h (.store id)

/-- …hence after **any history** of operations. -/
theorem inv_run (ops : List Op) {s : St} (h : Inv s) : Inv (run s ops) :=
  List.foldlRecOn ops (fun s op => (step s op).1) h fun s hs op _ => inv_step s hs op

theorem inv_history (ops : List Op) : Inv (run {} ops) := inv_run ops inv_init

theorem datasets_step (s : St) (op : Op) (d : Dataset) :
    d ∈ (step s op).1.datasets → d ∈ s.datasets ∨
      (s.ds d.id = none ∧ (∃ ty key run, op = .insert d.id ty key run ∨ op = .importDs d.id ty key run)) := by
  refine step_cases (P := fun s' => d ∈ s'.datasets → _) s op Or.inl fun s' e hd => ?_
  cases e with
  | add hop _ _ hnone =>
    rcases List.mem_cons.mp hd with rfl | hd
    · exact Or.inr ⟨hnone, _, _, _, hop⟩
    · exact Or.inl hd
  | removeDatasets => exact Or.inl (List.mem_filter.mp hd).1
  | removeCollection => exact Or.inl (List.mem_filter.mp hd).1
  | _ => exact Or.inl hd

/-- **A dataset's type, data ID and run never change**: whatever operation is applied, a dataset
id that exists before and after denotes the very same (type, data ID, run). -/
theorem one_run_forever (s : St) (h : Inv s) (op : Op) (d d' : Dataset)
    (hd : d ∈ (step s op).1.datasets) (hd' : d' ∈ s.datasets) (hid : d.id = d'.id) : d = d' := by
  rcases datasets_step s op d hd with e | e
  · exact h.ids.eq_of_key_eq e hd' hid
  · exact absurd (hid ▸ List.mem_map_of_mem hd') (ds_none_not_mem e.1)

/-- **TAGGED membership changes only through associate / disassociate / dataset or collection removal**:
registrations, insertions, imports, chain edits and datastore bookkeeping never touch a TAGGED collection. -/
theorem tagged_only_by_associate (s : St) (h : Inv s) (op : Op) (c : Nat) (hc : s.ctype c = some .tagged)
    (hop : match op with
      | .associate _ _ | .disassociate _ _ | .removeDatasets _ | .removeCollection _ => False
      | _ => True) :
    (step s op).1.members c = s.members c := by
  have addm {id ty key run} (hr : s.ctype run = some .run) : (addDataset s id ty key run).members c = s.members c := by
    have hne : run ≠ c := ne_of_apply_ne s.ctype (by simp [hr, hc])
    simp [St.members, addDataset, hne]
  refine step_cases (P := fun s' => s'.members c = s.members c) s op rfl fun s' e => ?_
  cases e with
  | add _ hr => exact addm hr
  | associate => exact hop.elim
  | disassociate => exact hop.elim
  | removeDatasets => exact hop.elim
  | removeCollection => exact hop.elim
  | _ => rfl

end C02

/-! ### Collection summaries as generated from the source on every run (`Gen/SummaryPy.lean`, `translate/gen_summary.py`) -/
namespace C02.Translated
open Summ Gen.SummaryPy

theorem vals_cons (e : Nat × List Nat) (r : Gov) (k' : Nat) : vals (e :: r) k' = if e.1 = k' then e.2 else vals r k' := by
  by_cases h : e.1 = k' <;> simp [vals, h]

theorem vals_addVal (g : Gov) (k v k' : Nat) (x : Nat) :
    x ∈ vals (addVal g k v) k' ↔ (x ∈ vals g k' ∨ (k' = k ∧ x = v)) := by
  fun_induction addVal g k v with
  | case1 k v =>                                       -- no entry yet
    rw [vals_cons]
    by_cases h : k = k'
    · simp [h, vals]
    · simp [h, vals, Ne.symm h]
  | case2 ke vs r k v hk =>
    -- the key is here: `v` joins its set unless it is in it
    cases beq_iff_eq.mp hk
    rw [vals_cons, vals_cons]
    by_cases hk' : ke = k'
    · by_cases hc : v ∈ vs
      · simpa [hk', hc] using fun e => e ▸ hc
      · simp [hk', hc, or_comm]
    · simp [hk', Ne.symm hk']
  | case3 ke vs r k v hk ih =>                         -- the key is further down, if anywhere
    rw [beq_iff_eq] at hk
    rw [vals_cons, vals_cons]
    by_cases hk' : ke = k'
    · subst hk'
      simp [hk]
    · simp [hk', ih]

theorem keys_addVal (g : Gov) (k v k' : Nat) : k' ∈ keys (addVal g k v) ↔ (k' ∈ keys g ∨ k' = k) := by
  fun_induction addVal g k v with
  | case1 => simp [keys]
  | case2 ke vs r k v hk =>
    cases beq_iff_eq.mp hk
    simp only [keys, List.map_cons, List.mem_cons]
    exact ⟨Or.inl, fun h => h.elim id Or.inl⟩
  | case3 ke vs r k v _ ih =>
    simp only [keys, List.map_cons, List.mem_cons] at ih ⊢
    rw [ih, or_assoc]

/-- adding the governor values of one data ID -/
def addOne (g : Gov) (d : List (Nat × Nat)) : Gov := (govsOf d).foldl (fun g gov => addVal g gov (valOf d gov)) g

theorem addOne_mono (d : List (Nat × Nat)) {g : Gov} {k x : Nat} (h : x ∈ vals g k) : x ∈ vals (addOne g d) k :=
  List.foldlRecOn (motive := fun g => x ∈ vals g k) _ _ h fun g h a _ => (vals_addVal g a _ k x).mpr (Or.inl h)

theorem fold_mono : ∀ (D : List (List (Nat × Nat))) (g : Gov) (k x : Nat), x ∈ vals g k → x ∈ vals (D.foldl addOne g) k :=
  fun D _ k x h => List.foldlRecOn (motive := fun g => x ∈ vals g k) D addOne h fun _ h d _ => addOne_mono d h

theorem addOne_has {d : List (Nat × Nat)} (g : Gov) {k : Nat} (hk : k ∈ govsOf d) : valOf d k ∈ vals (addOne g d) k :=
  List.foldl_of_mem (P := fun g => valOf d k ∈ vals g k) (f := fun g gov => addVal g gov (valOf d gov))
    (fun g => (vals_addVal g k _ k _).mpr (Or.inr ⟨rfl, rfl⟩))
    (fun g a h => (vals_addVal g a _ k _).mpr (Or.inl h)) g hk

theorem fold_has : ∀ (D : List (List (Nat × Nat))) (g : Gov) (d : List (Nat × Nat)) (k : Nat), d ∈ D → k ∈ govsOf d →
    valOf d k ∈ vals (D.foldl addOne g) k :=
  fun _ g d k hd hk => List.foldl_of_mem (P := fun g => valOf d k ∈ vals g k) (fun g => addOne_has g hk)
    (fun _ d' h => addOne_mono d' h) g hd

theorem addDataIds_eq (ts : List Nat) (g : Gov) (t : Nat) (D : List (List (Nat × Nat))) :
    addDataIds ts g t D = (addType ts t, D.foldl addOne g) := rfl

/-- **A summary never hides a dataset**: after the data IDs `D` of datasets of type `t` have been added to a summary (whatever it
held before), `is_compatible_with` answers `True` for every constraint that some dataset of `D` satisfies — so a collection holding
a matching dataset is never pruned from a query.  (`typeDims`: the dataset type's dimensions, whose governors every data ID of the
type has.) -/
theorem summary_never_hides (ts : List Nat) (g : Gov) (t : Nat) (D : List (List (Nat × Nat))) (typeDims : List Nat) (dims : Gov)
    (d : List (Nat × Nat)) (hd : d ∈ D)
    (hgov : ∀ k, k ∈ typeDims → k ∈ keys (addDataIds ts g t D).2 → k ∈ keys dims → k ∈ govsOf d)
    (hsat : ∀ k, k ∈ govsOf d → k ∈ keys dims → valOf d k ∈ vals dims k) :
    isCompatibleWith (addDataIds ts g t D).1 (addDataIds ts g t D).2 t typeDims dims = true := by
  rw [addDataIds_eq] at hgov ⊢
  simp only [isCompatibleWith]
  have ht : (addType ts t).contains t = true := by
    unfold addType
    split
    · assumption
    · simp
  simp only [ht, Bool.not_true, Bool.false_eq_true, if_false, List.all_eq_true, List.mem_filter, Bool.and_eq_true,
    List.contains_eq_mem, decide_eq_true_eq, Bool.not_eq_true']
  rintro k ⟨hk1, hk2, hk3⟩
  have hkd : k ∈ govsOf d := hgov k hk2 hk1 hk3
  have h1 : valOf d k ∈ vals (D.foldl addOne g) k := fold_has D g d k hd hkd
  have h2 : valOf d k ∈ vals dims k := hsat k hkd hk3
  -- not disjoint: the value is on both sides
  cases hdis : disjoint (vals (D.foldl addOne g) k) (vals dims k) with
  | false => rfl
  | true =>
    simp only [disjoint, List.all_eq_true, Bool.not_eq_true', List.contains_eq_mem, decide_eq_false_iff_not] at hdis
    exact absurd h2 (hdis _ h1)

/-- non-vacuity: two datasets of type 7 with instrument (governor 1) values 10 and 11: a query for instrument 11 keeps the
collection, a query for instrument 12 may drop it -/
example :
    let s := addDataIds [] [] 7 [[(1, 10)], [(1, 11)]]
    isCompatibleWith s.1 s.2 7 [1, 2] [(1, [11])] = true ∧ isCompatibleWith s.1 s.2 7 [1, 2] [(1, [12])] = false ∧
    isCompatibleWith s.1 s.2 8 [1, 2] [] = false := by decide

end C02.Translated
