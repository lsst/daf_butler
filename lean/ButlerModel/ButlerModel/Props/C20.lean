import ButlerModel.Model.Conc
import ButlerModel.Model.Lock
import ButlerModel.Gen.SyncPy
/-! # C20 — concurrent clients behave as if they ran one after another

Over `Model/Conc.lean` (interleavings of atomic steps) and `Model/Lock.lean`.  A removal is serializable against steps that stay
clear of it, not against a `put` that re-uses its slot (finding C20-a, `reuse_race_loses_artifact`). -/
namespace C20
open Conc

theorem upd_comm {α : Type} (f : Nat → α) (k1 k2 : Nat) (v1 v2 : α) (h : k1 ≠ k2) :
    upd (upd f k1 v1) k2 v2 = upd (upd f k2 v2) k1 v1 := by
  funext q; simp only [upd]; by_cases a : q = k2 <;> by_cases b : q = k1 <;> simp_all

theorem upd_ne {α : Type} (f : Nat → α) (k q : Nat) (v : α) (h : q ≠ k) : upd f k v q = f q := by simp [upd, h]

theorem upd_same {α : Type} (f : Nat → α) (k : Nat) (v : α) : upd f k v k = v := by simp [upd]

theorem upd_self {α : Type} {f : Nat → α} {k : Nat} {v : α} (h : f k = v) : upd f k v = f := by
  funext q; simp only [upd]; split <;> simp_all

/-! Once the move to the trash is committed, the removal of dataset `id` at `path` reads five cells of the state
(`cells`) and writes the first four of them (`poke`).  A clear step leaves the five alone and does not notice a
write to the four, so it commutes with anything confined to them (`edit`). -/

def cells (s : S) (id path : Nat) := (s.trash id, s.doom id, s.recs id, s.files path, s.users path)

def poke (s : S) (id path : Nat) (t d : Bool) (r f : Option Nat) : S :=
  { s with trash := upd s.trash id t, doom := upd s.doom id d, recs := upd s.recs id r, files := upd s.files path f }

def edit (id path : Nat) (F : Bool × Bool × Option Nat × Option Nat × Nat → Bool × Bool × Option Nat × Option Nat)
    (s : S) : S :=
  match F (cells s id path) with
  | (t, d, r, f) => poke s id path t d r f

theorem clear_cells {id path : Nat} {b : Step} (h : Clear id path b) (s : S) :
    cells (apply s b) id path = cells s id path := by
  -- whatever a clear step writes, it writes at ids and paths other than `id` and `path` (that is `h`, turned the way `upd`
  -- tests it), so each of the five cells reads as before; the same for each of the eight steps
  cases b <;> simp only [Clear, ne_eq, eq_comm (b := id), eq_comm (b := path)] at h <;> simp only [apply, cells] <;>
    split <;> simp only [upd, h, ↓reduceIte]

theorem clear_poke {id path : Nat} {b : Step} (h : Clear id path b) (s : S) (t d : Bool) (r f : Option Nat) :
    apply (poke s id path t d r f) b = poke (apply s b) id path t d r f := by
  cases b with
  | regColl _ _ | assoc _ _ =>
    simp only [apply, poke]
    split <;> simp only [*, ↓reduceIte, Bool.false_eq_true]
  | put slot i p c =>
    simp only [apply, poke]
    split <;> simp only [*, ↓reduceIte, Bool.false_eq_true]
    rw [upd_comm s.recs _ _ _ _ h.1, upd_comm s.files _ _ _ _ h.2]
  | chainAdd a b => rfl
  | prune1 a i p =>
    simp only [apply, poke]
    split <;> simp only [*, ↓reduceIte, Bool.false_eq_true]
    rw [upd_comm s.trash _ _ _ _ h.1]
  | prune2q i p =>
    simp only [apply, poke, upd_ne _ _ _ _ h]
    split
    · rw [upd_comm s.doom _ _ _ _ h]
    · rfl
  | prune2d i p =>
    simp only [apply, poke, upd_ne _ _ _ _ h.1]
    split
    · rw [upd_comm s.files _ _ _ _ h.2]
    · rfl
  | prune3 i =>
    simp only [apply, poke, upd_ne _ _ _ _ h]
    split
    · rw [upd_comm s.trash _ _ _ _ h, upd_comm s.doom _ _ _ _ h, upd_comm s.recs _ _ _ _ h]
    · rfl

theorem clear_commutes_edit {id path : Nat} {b : Step} (h : Clear id path b) (F) (s : S) :
    apply (edit id path F s) b = edit id path F (apply s b) := by
  simp only [edit, clear_cells h]
  exact clear_poke h ..

theorem prune2q_eq (id path : Nat) (s : S) :
    apply s (.prune2q id path) = edit id path (fun (t, d, r, f, u) => (t, if t then u == 0 else d, r, f)) s := by
  simp only [apply, edit, cells, poke]
  split <;> simp [*, upd_self]

theorem prune2d_eq (id path : Nat) (s : S) :
    apply s (.prune2d id path) = edit id path (fun (t, d, r, f, _) => (t, d, r, if t && d then none else f)) s := by
  simp only [apply, edit, cells, poke]
  split <;> simp [*, upd_self]

theorem prune3_eq (id path : Nat) (s : S) :
    apply s (.prune3 id) =
      edit id path (fun (t, d, r, f, _) => if t then (false, false, none, f) else (t, d, r, f)) s := by
  simp only [apply, edit, cells, poke]
  split <;> simp [*, upd_self]

theorem commute_of_edit {id path : Nat} {b r : Step} (h : Clear id path b) {F}
    (hr : ∀ s, apply s r = edit id path F s) : Commute b r := fun s => by
  rw [hr, hr, clear_commutes_edit h]

/-- **A step that stays clear of a removal commutes with the trash query of that removal.** -/
theorem clear_commutes_prune2q (id path : Nat) (b : Step) (h : Clear id path b) : Commute b (.prune2q id path) :=
  commute_of_edit h (prune2q_eq id path)

/-- **…with its file deletion.** -/
theorem clear_commutes_prune2d (id path : Nat) (b : Step) (h : Clear id path b) : Commute b (.prune2d id path) :=
  commute_of_edit h (prune2d_eq id path)

/-- **…and with its row deletion.** -/
theorem clear_commutes_prune3 (id path : Nat) (b : Step) (h : Clear id path b) : Commute b (.prune3 id) :=
  commute_of_edit h (prune3_eq id path)

/-- A step that commutes with every step of a block can be moved across the block. -/
theorem move_across (r : Step) : ∀ (bs : List Step) (s : S), (∀ b ∈ bs, Commute b r) → run s (bs ++ [r]) = run s (r :: bs)
  | [], _, _ => rfl
  | b :: bs, s, h => by
    have hb := h b List.mem_cons_self
    have ih := move_across r bs (apply s b) (fun x hx => h x (List.mem_cons_of_mem _ hx))
    simp only [run, List.cons_append, List.foldl_cons] at ih ⊢
    rw [ih, hb s]

theorem run_append (s : S) (a b : List Step) : run s (a ++ b) = run (run s a) b := List.foldl_append

theorem run_cons (s : S) (a : Step) (l : List Step) : run s (a :: l) = run (apply s a) l := rfl

theorem run_nil (s : S) : run s [] = s := rfl

theorem hoist {id path : Nat} {r : Step} (hr : ∀ b, Clear id path b → Commute b r) (mid : List Step)
    (hm : ∀ b ∈ mid, Clear id path b) (s : S) : apply (run s mid) r = run (apply s r) mid := by
  simpa only [run_append, run_cons, run_nil] using move_across r mid s fun b hb => hr b (hm b hb)

/-- **Reduction.** A removal `r1 · r2q · r2d · r3` of dataset `id` at `path`, interleaved in any way
with steps of other clients that stay clear of it, ends in the same state as the schedule in which
the removal runs without interruption at the point of its first commit: the interleaving is
equivalent to a sequential order. -/
theorem removal_serializable (slot id path : Nat) (pre mid1 mid2 mid3 post : List Step) (s : S)
    (h1 : ∀ b ∈ mid1, Clear id path b) (h2 : ∀ b ∈ mid2, Clear id path b) (h3 : ∀ b ∈ mid3, Clear id path b) :
    run s (pre ++ [.prune1 slot id path] ++ mid1 ++ [.prune2q id path] ++ mid2 ++ [.prune2d id path] ++ mid3 ++
           [.prune3 id] ++ post) =
    run s (pre ++ [.prune1 slot id path, .prune2q id path, .prune2d id path, .prune3 id] ++ mid1 ++ mid2 ++ mid3 ++ post) := by
  have q := hoist (clear_commutes_prune2q id path)
  have d := hoist (clear_commutes_prune2d id path)
  have e := hoist (clear_commutes_prune3 id path)
  simp only [run_append, run_cons, run_nil, q _ h1, d _ h2, d _ h1, e _ h3, e _ h2, e _ h1]

/-- Single-step operations need no argument: a schedule of atomic steps *is* a sequential order.
Get-or-create: registering a collection twice leaves the first definition. -/
theorem register_get_or_create (s : S) (n t t' : Nat) (h : s.colls n = none) :
    (run s [.regColl n t, .regColl n t']).colls n = some t := by
  simp [run, apply, h, upd]

/-- Of two conflicting inserts into one slot exactly one wins, whichever order they commit in. -/
theorem conflicting_puts_one_wins (s : S) (slot i1 p1 c1 i2 p2 c2 : Nat) (h : s.slots slot = none) :
    (run s [.put slot i1 p1 c1, .put slot i2 p2 c2]).slots slot = some i1 ∧
    (run s [.put slot i2 p2 c2, .put slot i1 p1 c1]).slots slot = some i2 := by
  simp [run, apply, h, upd]

/-- Chain edits are not lost: both children are there after both edits, in commit order. -/
theorem chain_edits_not_lost (s : S) (ch a b : Nat) :
    (run s [.chainAdd ch a, .chainAdd ch b]).chain ch = s.chain ch ++ [a, b] := by
  simp [run, apply, upd]

/-- One stored dataset: id 10 in slot 1, content 100 at path 7. -/
def stored1 : S := { slots := upd (fun _ => none) 1 (some 10), recs := upd (fun _ => none) 10 (some 7),
                     files := upd (fun _ => none) 7 (some 100), users := upd (fun _ => 0) 7 1 }

/-- Known finding C20-a as a theorem: a `put` that re-uses the slot — hence the artifact path — of a
dataset whose removal is between its trash query and its file deletion is *not* clear of it, and the
result is a visible dataset without artifact, which no sequential order produces. -/
theorem reuse_race_loses_artifact :
    let s := run stored1 [.prune1 1 10 7, .prune2q 10 7, .put 1 11 7 200, .prune2d 10 7, .prune3 10]
    s.slots 1 = some 11 ∧ s.recs 11 = some 7 ∧ s.files 7 = none := by
  decide

/-- The same `put` *before* the query is harmless: the query sees the new reference and keeps the file. -/
theorem reuse_before_query_is_safe :
    (run stored1 [.prune1 1 10 7, .put 1 11 7 200, .prune2q 10 7, .prune2d 10 7, .prune3 10]).files 7 = some 200 := by
  decide

theorem reuse_sequential_orders_keep_it :
    (run stored1 [.prune1 1 10 7, .prune2q 10 7, .prune2d 10 7, .prune3 10, .put 1 11 7 200]).files 7 = some 200 ∧
    (run stored1 [.put 1 11 7 200, .prune1 1 10 7, .prune2q 10 7, .prune2d 10 7, .prune3 10]).slots 1 = none := by
  decide

example : Clear 10 7 (.put 2 11 8 200) := by simp [Clear]

end C20

/-! ## A failed block against a put into the same slot (two clients, one waiting for the other's lock) -/
namespace C20.FailedBlock
open Lock

/-- B arriving after A's last step is B arriving at A's last step. -/
theorem late_arrival (order : List AStep) (k : Nat) (bDone : Bool) (s : S) (hk : order.length ≤ k) :
    exec order k bDone s = exec order order.length bDone s := by
  induction order generalizing k bDone s with
  | nil => rfl
  | cons st rest ih =>
    cases k with
    | zero => exact absurd hk (Nat.not_succ_le_zero _)
    | succ k' =>
      -- B does not run before this step on either side, since its arrival is still ahead
      have h : ∀ n, (!bDone && (n + 1 == 0) && !s.locked) = false := by simp
      simp only [exec, List.length_cons, h, Nat.add_sub_cancel, Bool.or_false, Bool.false_eq_true, if_false]
      exact ih k' bDone (applyA s st) (Nat.le_of_succ_le_succ hk)

/-- **Whenever client B's put arrives — before, between or after the two steps in which client A's failed block is
undone — the outcome is the sequential one**: B's dataset is registered and the artifact holds B's content.  (B waits for
the write lock, and the lock is released only after A's undo has removed A's artifact.) -/
theorem failed_block_vs_put_serializable (k : Nat) : exec sourceOrder k false start = sequential := by
  match k with
  | 0 => decide
  | 1 => decide
  | k + 2 => exact (late_arrival sourceOrder (k + 2) false start (Nat.le_add_left 2 k)).trans (by decide)

/-- **Witness: with the two steps in the other order** (registry released first, artifact undone afterwards — what nesting
the two context managers the other way round gives) a put that was waiting for the lock lands in between, and A's undo then
deletes *B's* artifact: B's dataset is registered and unreadable, an outcome no sequential order gives. -/
theorem swapped_order_loses_artifact :
    exec swappedOrder 0 false start = { locked := false, row := some .b, file := none } ∧
    exec swappedOrder 1 false start = { locked := false, row := some .b, file := none } ∧
    exec swappedOrder 1 false start ≠ sequential := by decide

end C20.FailedBlock

/-! ### The decision of `Database.sync` as translated from the source on every run (`Gen/SyncPy.lean`, `translate/gen_sync.py`)

`n` rows carry the keys after the `INSERT … ON CONFLICT IGNORE`; `bad`: the existing row differs in a compared column;
`inserted`: the insert added the row; `update`: the caller asked for differing columns to be overwritten. -/
namespace C20.Translated
open Gen.SyncPy

theorem sync_table (n : Int) (bad inserted update : Bool) :
    syncDecision n bad inserted update =
      if n < 1 then .error "ConflictingDefinitionError" else if n > 1 then .error "RuntimeError"
      else if bad then (if inserted then .error "RuntimeError" else if update then .ok 2 else .error "DatabaseConflictError")
      else .ok (if inserted then 1 else 0) := by
  simp only [syncDecision, decide_eq_true_eq]

/-- **Registrations are get-or-create**: when exactly one row carries the keys and it agrees with what was asked for, `sync`
succeeds for every caller, and tells each whether *its* insert created the row (1) or the row was already there (0). -/
theorem get_or_create (inserted update : Bool) :
    syncDecision 1 false inserted update = .ok (if inserted then 1 else 0) := by
  simp [sync_table]

/-- **A differing definition is never accepted silently**: whenever `sync` returns while the existing row differs from what was
asked for, the caller had asked for an update, the row was not this caller's insert, and the result says "updated". -/
theorem conflict_never_silent (n : Int) (inserted update : Bool) (c : Nat)
    (h : syncDecision n true inserted update = .ok c) : update = true ∧ inserted = false ∧ c = 2 ∧ n = 1 := by
  rw [sync_table] at h
  -- the first two rows of the table are errors, so `n` is 1; then the table is a matter of the two flags
  have h1 : ¬ n < 1 := fun h1 => by rw [if_pos h1] at h; cases h
  have h2 : ¬ n > 1 := fun h2 => by rw [if_neg h1, if_pos h2] at h; cases h
  rw [if_neg h1, if_neg h2, if_pos rfl] at h
  cases inserted <;> cases update <;> cases h
  exact ⟨rfl, rfl, rfl, by omega⟩

/-- without `update`, a differing existing row is the documented conflict error -/
theorem conflict_refused (inserted : Bool) (hi : inserted = false) :
    syncDecision 1 true inserted false = .error "DatabaseConflictError" := by
  subst hi; rfl

/-- keys that do not identify one row are an error, never a guess -/
theorem not_unique_is_error (n : Int) (bad inserted update : Bool) (h : n ≠ 1) :
    ∃ e, syncDecision n bad inserted update = .error e := by
  rw [sync_table]
  by_cases h1 : n < 1
  · exact ⟨_, if_pos h1⟩
  · exact ⟨_, (if_neg h1).trans (if_pos (by omega))⟩

end C20.Translated
