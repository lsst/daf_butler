import ButlerModel.Model.Calib
import ButlerModel.Gen.DecertifyPy
import ButlerModel.Props.C11
/-! # C04 — validity ranges never overlap; decertify removes exactly the requested range

About `Model/Calib.lean`: `certify` / `decertify` on a database without exclusion constraint (SQLite), over the timespan
operations generated from `_timespan.py`.  `C04.Translated` at the end shows that the Python halves of both, as translated
from the source on every run, are that model; the SQL halves (overlap query, count) stay tied by the correspondence. -/

namespace C04
open Calib Gen Gen.TsPy C11

/-- Every stored timespan is a constructible one. -/
def RowsWF (s : State) : Prop := ∀ r ∈ s, WF r.ts

/-- At every instant at most one dataset is valid per data ID. -/
def NoOverlap (s : State) : Prop := ∀ k t, (validAt s k t).length ≤ 1

theorem validAt_append (a b : State) (k : Nat) (t : Int) :
    validAt (a ++ b) k t = validAt a k t ++ validAt b k t := by
  unfold validAt
  simp

def cnt (s : State) (k : Nat) (t : Int) : Nat := (validAt s k t).length

theorem cnt_append (a b : State) (k : Nat) (t : Int) : cnt (a ++ b) k t = cnt a k t + cnt b k t := by
  unfold cnt
  rw [validAt_append, List.length_append]

theorem cnt_batch (batch : List (Nat × Nat)) (ts : TS) (k : Nat) (t : Int) :
    cnt (batch.map fun b => ⟨b.1, b.2, ts⟩) k t =
      if Mem t ts then (batch.filter fun b => b.1 == k).length else 0 := by
  simp only [cnt, validAt, List.filter_map, List.length_map, Function.comp_def, ← containsT_iff]
  cases TsPy.containsT ts t <;> simp

theorem distinctKeys_cons (b : Nat × Nat) (bs : List (Nat × Nat)) :
    distinctKeys (b :: bs) = true ↔ (∀ b' ∈ bs, b'.1 ≠ b.1) ∧ distinctKeys bs = true := by
  simp [distinctKeys]

theorem distinctKeys_iff_pairwise {batch : List (Nat × Nat)} :
    distinctKeys batch = true ↔ batch.Pairwise fun a b => b.1 ≠ a.1 := by
  induction batch with
  | nil => simp [distinctKeys]
  | cons b bs ih => rw [distinctKeys_cons, List.pairwise_cons, ih]

theorem distinctKeys_count (k : Nat) (batch : List (Nat × Nat)) (h : distinctKeys batch = true) :
    (batch.filter fun b => b.1 == k).length ≤ 1 := by
  rw [← List.countP_eq_length_filter]
  refine List.countP_le_one_of_pairwise _ _ ((distinctKeys_iff_pairwise.mp h).imp fun hab hk => ?_)
  exact hab ((beq_iff_eq.mp hk.2).trans (beq_iff_eq.mp hk.1).symm)

/-- What the SELECT COUNT of `certifyCore` counts: stored rows of one of the batch's data IDs that
overlap the timespan. -/
theorem conflicting_pos (s : State) (batch : List (Nat × Nat)) (ts : TS) :
    0 < (s.filter fun r => TsPy.overlaps r.ts ts && batch.any (fun b => b.1 == r.key)).length ↔
      ∃ r ∈ s, TsPy.overlaps r.ts ts = true ∧ ∃ b ∈ batch, b.1 = r.key := by
  simp only [List.length_pos_iff_exists_mem, List.mem_filter, Bool.and_eq_true, List.any_eq_true, beq_iff_eq]

theorem certifyCore_refused_iff (s : State) (batch : List (Nat × Nat)) (ts : TS) :
    (∃ e, certifyCore s batch ts = .error e) ↔
      ∃ r ∈ s, TsPy.overlaps r.ts ts = true ∧ ∃ b ∈ batch, b.1 = r.key := by
  rw [← conflicting_pos]
  simp only [certifyCore]
  split <;> simp [*]

theorem certifyCore_ok {s s' : State} {batch : List (Nat × Nat)} {ts : TS} (h : certifyCore s batch ts = .ok s') :
    s' = s ++ batch.map (fun b => ⟨b.1, b.2, ts⟩) ∧
      ¬ ∃ r ∈ s, TsPy.overlaps r.ts ts = true ∧ ∃ b ∈ batch, b.1 = r.key := by
  rw [← conflicting_pos]
  simp only [certifyCore] at h
  split at h
  · cases h
  · exact ⟨(Except.ok.inj h).symm, ‹_›⟩

/-- The check-then-insert core keeps validity ranges disjoint when the batch has distinct data IDs
(or the timespan is empty, so that the new rows are valid nowhere). -/
theorem certifyCore_preserves_noOverlap {s s' : State} {batch : List (Nat × Nat)} {ts : TS}
    (hwf : RowsWF s) (hts : WF ts) (hno : NoOverlap s) (hd : distinctKeys batch = true ∨ TsPy.isEmpty ts = true)
    (h : certifyCore s batch ts = .ok s') : NoOverlap s' := by
  obtain ⟨rfl, hfree⟩ := certifyCore_ok h
  intro k t
  show cnt _ k t ≤ 1
  have hold : cnt s k t ≤ 1 := hno k t
  rw [cnt_append, cnt_batch]
  split
  · rename_i hm
    have hnew := distinctKeys_count k batch (hd.resolve_right fun he => (isEmpty_iff ts hts).mp he t hm)
    rcases Nat.eq_zero_or_pos (cnt s k t) with h0 | h0
    · omega
    · -- a stored row valid at `t` overlaps `ts`, so the batch has no dataset of its data ID
      obtain ⟨r, hr⟩ := List.exists_mem_of_length_pos h0
      simp only [validAt, List.mem_filter, Bool.and_eq_true, beq_iff_eq, containsT_iff] at hr
      have hov := (overlaps_iff _ _ (hwf r hr.1) hts).mpr ⟨t, hr.2.2, hm⟩
      rw [List.filter_eq_nil_iff.mpr fun b hb hk =>
        hfree ⟨r, hr.1, hov, b, hb, (beq_iff_eq.mp hk).trans hr.2.1.symm⟩]
      exact hold
  · exact hold

/-- Without the distinct-data-ID guard the core alone is **not** safe (this was the behaviour of
`certify` on SQLite before the `fix:` commit): one call with two datasets of the same data ID is
accepted and leaves two datasets valid at the same instant.  Kept as the regression witness. -/
theorem certifyCore_overlap_witness :
    ∃ s', certifyCore [] [(0, 1), (0, 2)] ⟨10, 20⟩ = .ok s' ∧ ¬ NoOverlap s' :=
  ⟨[⟨0, 1, ⟨10, 20⟩⟩, ⟨0, 2, ⟨10, 20⟩⟩], by rfl, fun h => absurd (h 0 15) (by decide)⟩

/-- `certify` is `certifyCore` behind two guards: an accepted call either had nothing to do or went
through the core with distinct data IDs or an empty timespan. -/
theorem certify_ok {s s' : State} {batch : List (Nat × Nat)} {ts : TS} (h : certify s batch ts = .ok s') :
    s' = s ∨ ((distinctKeys batch = true ∨ TsPy.isEmpty ts = true) ∧ certifyCore s batch ts = .ok s') := by
  revert h
  fun_cases certify s batch ts with
  | case1 => exact fun h => .inl (Except.ok.inj h).symm    -- an empty batch
  | case2 => nofun                                          -- refused by the guard
  | case3 _ hg =>
    refine fun h => .inr ⟨?_, h⟩
    cases hd : distinctKeys batch
    · exact .inr (by simpa [hd] using hg)
    · exact .inl rfl

/-- **certify keeps validity ranges disjoint — full statement, any batch** (with the guard the
`fix:` commit added): whenever certify accepts, at every instant at most one dataset is valid. -/
theorem certify_preserves_noOverlap (s s' : State) (batch : List (Nat × Nat)) (ts : TS)
    (hwf : RowsWF s) (hts : WF ts) (hno : NoOverlap s)
    (h : certify s batch ts = .ok s') : NoOverlap s' := by
  rcases certify_ok h with rfl | ⟨hd, hc⟩
  · exact hno
  · exact certifyCore_preserves_noOverlap hwf hts hno hd hc

/-- certify is refused exactly when a validity range would overlap: an existing row of one of the
batch's data IDs overlaps the timespan, or (non-empty timespan) two datasets of the batch share a
data ID.  A refusal changes nothing (the state is returned only on success). -/
theorem certify_refused_iff (s : State) (batch : List (Nat × Nat)) (ts : TS) (hne : batch ≠ []) :
    (∃ e, certify s batch ts = .error e) ↔
      ((distinctKeys batch = false ∧ TsPy.isEmpty ts = false) ∨
        ∃ r ∈ s, TsPy.overlaps r.ts ts = true ∧ ∃ b ∈ batch, b.1 = r.key) := by
  rw [← certifyCore_refused_iff]
  unfold certify
  simp only [List.isEmpty_iff, hne, ↓reduceIte]
  cases distinctKeys batch <;> cases TsPy.isEmpty ts <;> simp

theorem cnt_cons (r : Row) (s : State) (k : Nat) (t : Int) : cnt (r :: s) k t = cnt [r] k t + cnt s k t :=
  cnt_append [r] s k t

theorem cnt_single (r : Row) (k : Nat) (t : Int) : cnt [r] k t = if r.key = k ∧ Mem t r.ts then 1 else 0 := by
  simp only [cnt, validAt, List.filter_cons, List.filter_nil, Bool.and_eq_true, beq_iff_eq, containsT_iff]
  split <;> rfl

theorem pieces_count (r : Row) (ts : TS) (k : Nat) (t : Int) :
    cnt ((TsPy.difference r.ts ts).map fun d => ({ key := r.key, ds := r.ds, ts := d } : Row)) k t =
      if r.key = k ∧ Mem t r.ts ∧ ¬ Mem t ts then 1 else 0 := by
  have h := difference_count r.ts ts t
  simp only [cnt, validAt, List.filter_map, List.length_map]
  by_cases hk : r.key = k
  · simpa [Function.comp_def, hk] using h
  · simp [Function.comp_def, hk]

theorem cnt_decertify_cons (r : Row) (s : State) (ts : TS) (sel : Option (List Nat)) (k : Nat) (t : Int) :
    cnt (decertify (r :: s) ts sel) k t =
      cnt (decertify s ts sel) k t +
        (if hit ts sel r then
            cnt ((TsPy.difference r.ts ts).map fun d => ({ key := r.key, ds := r.ds, ts := d } : Row)) k t
          else cnt [r] k t) := by
  unfold decertify
  cases h : hit ts sel r
  · simp only [List.filter_cons, h, Bool.not_false, ↓reduceIte, Bool.false_eq_true, cnt_append]
    rw [cnt_cons]
    omega
  · simp only [List.filter_cons, h, Bool.not_true, Bool.false_eq_true, ↓reduceIte, List.flatMap_cons, cnt_append]
    omega

/-- **decertify is exact at every instant**: inside the decertified timespan (for the selected data
IDs) nothing is valid any more; everywhere else exactly the rows that were valid before. -/
theorem decertify_exact (s : State) (ts : TS) (sel : Option (List Nat)) (k : Nat) (t : Int)
    (hwf : RowsWF s) (hts : WF ts) :
    cnt (decertify s ts sel) k t = if Mem t ts ∧ selected sel k = true then 0 else cnt s k t := by
  induction s with
  | nil => simp [decertify, cnt, validAt]
  | cons r s ih =>
    have hr : WF r.ts := hwf r List.mem_cons_self
    -- a row that holds `t` and is not hit cannot be selected while `t` is decertified; with that the two sides agree in each
    -- of the cases of `r.key = k`, `Mem t r.ts`, `Mem t ts` and `selected sel k`, which `grind` goes through
    have hov : Mem t r.ts → Mem t ts → TsPy.overlaps r.ts ts = true :=
      fun h1 h2 => (overlaps_iff _ _ hr hts).mpr ⟨t, h1, h2⟩
    rw [cnt_decertify_cons, ih fun x hx => hwf x (List.mem_cons_of_mem _ hx), cnt_cons r s,
      pieces_count r ts k t, cnt_single, hit]
    grind

/-- Hence decertify keeps the ranges disjoint. -/
theorem decertify_preserves_noOverlap (s : State) (ts : TS) (sel : Option (List Nat))
    (hwf : RowsWF s) (hts : WF ts) (hno : NoOverlap s) : NoOverlap (decertify s ts sel) := by
  intro k t
  show cnt _ k t ≤ 1
  rw [decertify_exact s ts sel k t hwf hts]
  split
  · exact Nat.zero_le 1
  · exact hno k t

/-- Stored timespans stay constructible (needed to iterate the theorems along a history). -/
theorem decertify_rowsWF (s : State) (ts : TS) (sel : Option (List Nat)) (hwf : RowsWF s) (hts : WF ts) :
    RowsWF (decertify s ts sel) := by
  intro r hr
  unfold decertify at hr
  simp only [List.mem_append, List.mem_filter, List.mem_flatMap, List.mem_map] at hr
  rcases hr with hr | ⟨r0, hr0, d, hd, rfl⟩
  · exact hwf r hr.1
  · exact (difference_piece (hwf r0 hr0.1) hts hd).1

theorem certify_rowsWF (s s' : State) (batch : List (Nat × Nat)) (ts : TS) (hwf : RowsWF s) (hts : WF ts)
    (h : certify s batch ts = .ok s') : RowsWF s' := by
  rcases certify_ok h with rfl | ⟨-, hc⟩
  · exact hwf
  · obtain ⟨rfl, -⟩ := certifyCore_ok hc
    exact List.forall_mem_append.mpr ⟨hwf, List.forall_mem_map.mpr fun _ _ => hts⟩

theorem NoOverlap.sublist {s s' : State} (hno : NoOverlap s) (h : s'.Sublist s) : NoOverlap s' :=
  fun k t => Nat.le_trans (h.filter _).length_le (hno k t)

theorem removeDataset_preserves (s : State) (d : Nat) (hno : NoOverlap s) : NoOverlap (removeDataset s d) :=
  hno.sublist List.filter_sublist

/-- A timespan lookup returns the unique overlapping dataset, or reports ambiguity iff two or more
rows overlap — never an arbitrary one. -/
theorem lookup_unique_or_ambiguous (s : State) (k : Nat) (q : TS) :
    let m := s.filter (fun r => r.key == k && TsPy.overlaps r.ts q)
    (lookup s k q = .none ↔ m.length = 0) ∧
    (lookup s k q = .ambiguous ↔ m.length ≥ 2) ∧
    (∀ d, lookup s k q = .one d ↔ ∃ r, m = [r] ∧ r.ds = d) := by
  simp only [lookup]
  generalize s.filter (fun r => r.key == k && TsPy.overlaps r.ts q) = m
  match m with
  | [] => simp
  | [r] => simp
  | _ :: _ :: _ => simp

example : decertify [⟨0, 1, ⟨0, 100⟩⟩] ⟨40, 60⟩ none = [⟨0, 1, ⟨0, 40⟩⟩, ⟨0, 1, ⟨60, 100⟩⟩] := by decide
example : certify [⟨0, 1, ⟨0, 100⟩⟩] [(0, 2)] ⟨99, 200⟩ = .error "ConflictingDefinitionError" := by rfl

end C04

/-! ## T-tie: the Python half of `decertify` **as translated from `byDimensions/_manager.py` on every run**
(`translate/gen_decertify.py`: `decertify` from `rows_to_delete = []` on — the loop over the rows of the overlap query, the pieces
`Timespan.difference` leaves, the DELETE and the INSERT).  The overlap query itself stays tied by the correspondence. -/
namespace C04.Translated
open Calib Gen

abbrev IdRow := Nat × Row

/-- What is re-inserted for a row of the overlap query.  The source leaves the primary key of a new row to the database; the
translation writes `0` for it, so `translated_decertify` compares the tables without their keys and speaks of one call (its
result need not have distinct keys any more). -/
def pieces (ts : TS) (r : IdRow) : List IdRow :=
  (TsPy.difference r.2.ts ts).map fun d => ((0 : Nat), (⟨r.2.key, r.2.ds, d⟩ : Row))

/-- The translated loop, read off: the primary keys of `rows` are deleted, their `pieces` inserted. -/
theorem gen_shape (ts : TS) (rows s : List IdRow) :
    Gen.DecertifyPy.decertifyPy ts rows s =
      s.filter (fun r => !(rows.map (·.1)).contains r.1) ++ rows.flatMap (pieces ts) := by
  have h := List.foldl_prod (fun (del : List Nat) (row : IdRow) => del ++ [row.1])
    (fun (ins : List IdRow) (row : IdRow) => (TsPy.difference row.2.ts ts).foldl
      (fun ins d => ins ++ [((0 : Nat), (⟨row.2.key, row.2.ds, d⟩ : Row))]) ins) rows [] []
  simp only [Gen.DecertifyPy.decertifyPy]
  -- the translated loop matches on its pair of accumulators; up to that, it is the loop of `h`
  erw [h]
  simp only [List.foldl_append_eq_append, ← List.flatMap_def, ← List.map_eq_flatMap, List.nil_append]
  rfl

/-- **The Python half of `decertify` as translated from the source on every run** — collect the primary keys of the rows the
overlap query returned, per row what `Timespan.difference` leaves of its validity range, DELETE, INSERT — does to the calibs
table what `Calib.decertify` (the model the interval-map theorems are about) does: for every table with distinct primary keys,
every timespan and every data-ID selection. -/
theorem translated_decertify (s : List IdRow) (hn : (s.map (·.1)).Nodup) (ts : TS) (sel : Option (List Nat)) :
    (Gen.DecertifyPy.decertifyPy ts (s.filter fun r => hit ts sel r.2) s).map (·.2) = decertify (s.map (·.2)) ts sel := by
  rw [gen_shape, decertify, List.map_append, List.filter_map, List.filter_map, List.map_flatMap, List.flatMap_map]
  congr 2
  · -- the rows that stay: the primary keys are distinct, so deleting by key deletes exactly the rows that were hit
    exact List.filter_congr fun r hr => congrArg (!·) (hn.contains_map_filter (fun r => hit ts sel r.2) hr)
  · funext r
    simp [pieces, Function.comp_def]

/-- non-vacuity: [0,10) of dataset 7 with [3,5) decertified -/
example : (Gen.DecertifyPy.decertifyPy ⟨3, 5⟩ [(1, ⟨1, 7, ⟨0, 10⟩⟩)] [(1, ⟨1, 7, ⟨0, 10⟩⟩), (2, ⟨2, 8, ⟨0, 10⟩⟩)]).map (·.2) =
    [⟨2, 8, ⟨0, 10⟩⟩, ⟨1, 7, ⟨0, 3⟩⟩, ⟨1, 7, ⟨5, 10⟩⟩] := by decide

/-! ### the Python half of `certify` -/

section Certify
open Py

def addKeys (acc : List Nat) (batch : List (Nat × Nat)) : List Nat := batch.foldl (fun a b => setAdd a b.1) acc

theorem addKeys_cons (acc : List Nat) (b : Nat × Nat) (bs : List (Nat × Nat)) :
    addKeys acc (b :: bs) = addKeys (setAdd acc b.1) bs := rfl

theorem addKeys_le : ∀ (batch : List (Nat × Nat)) (acc : List Nat), (addKeys acc batch).length ≤ acc.length + batch.length
  | [], _ => Nat.le_refl _
  | b :: bs, acc => by
    have := addKeys_le bs (setAdd acc b.1)
    rw [setAdd_len] at this
    rw [addKeys_cons, List.length_cons]
    split at this <;> omega

theorem addKeys_mem : ∀ (batch : List (Nat × Nat)) (acc : List Nat) (y : Nat), y ∈ acc → y ∈ addKeys acc batch :=
  fun batch _ y h => List.foldlRecOn batch _ h fun a ha b _ => (setAdd_mem a b.1 y).mpr (.inl ha)

theorem addKeys_len_iff : ∀ (batch : List (Nat × Nat)) (acc : List Nat),
    (addKeys acc batch).length = acc.length + batch.length ↔ (distinctKeys batch = true ∧ ∀ b ∈ batch, b.1 ∉ acc)
  | [], acc => by simp [addKeys, distinctKeys]
  | b :: bs, acc => by
    have hle := addKeys_le bs (setAdd acc b.1)
    have ih := addKeys_len_iff bs (setAdd acc b.1)
    rw [setAdd_len] at hle ih
    rw [addKeys_cons, List.length_cons, distinctKeys_cons, List.forall_mem_cons]
    by_cases hb : b.1 ∈ acc
    · -- the key was there already: one short for ever
      rw [if_pos hb] at hle
      exact ⟨fun h => by omega, fun h => absurd hb h.2.1⟩
    · rw [if_neg hb] at ih
      rw [show acc.length + (bs.length + 1) = acc.length + 1 + bs.length by omega, ih]
      simp only [setAdd_mem, not_or, forall_and, hb, not_false_eq_true, true_and]
      exact ⟨fun ⟨h1, h2, h3⟩ => ⟨⟨h3, h1⟩, h2⟩, fun ⟨⟨h3, h1⟩, h2⟩ => ⟨h1, h2, h3⟩⟩

theorem addKeys_nil_len (batch : List (Nat × Nat)) :
    (addKeys [] batch).length = batch.length ↔ distinctKeys batch = true := by
  simpa using addKeys_len_iff batch []

/-- the SELECT COUNT of `certify`: rows of the table that overlap the timespan and carry one of the call's data IDs -/
def conflictCount (ts : TS) (tbl : List IdRow) (rows : List Row) : Nat :=
  (tbl.filter fun r => TsPy.overlaps r.2.ts ts && rows.any (fun x => x.key == r.2.key)).length

theorem conflictCount_batch (ts : TS) (s : List IdRow) (batch : List (Nat × Nat)) :
    conflictCount ts s (batch.map fun b => ⟨b.1, b.2, ts⟩) =
      ((s.map (·.2)).filter fun r => TsPy.overlaps r.ts ts && batch.any (fun b => b.1 == r.key)).length := by
  simp only [conflictCount, List.filter_map, List.length_map, List.any_map, Function.comp_def]

/-- **The Python half of `certify` (SQLite branch) as translated from the source on every run** — build the rows, count the
distinct data IDs, refuse a call that repeats one, refuse when the overlap query finds a row, INSERT — is `Calib.certify`, the
model the no-overlap theorems are about: for every table, batch and timespan. -/
theorem translated_certify (s : List IdRow) (batch : List (Nat × Nat)) (ts : TS) :
    (Gen.DecertifyPy.certifyPy ts batch (conflictCount ts) s).map (fun t => t.map (·.2)) = certify (s.map (·.2)) batch ts := by
  have hfold := List.foldl_prod (fun (rows : List Row) (d : Nat × Nat) => rows ++ [(⟨d.1, d.2, ts⟩ : Row)])
    (fun ids (d : Nat × Nat) => setAdd ids d.1) batch [] []
  simp only [List.foldl_append_eq_append, ← List.flatMap_def, ← List.map_eq_flatMap, List.nil_append,
    ← addKeys.eq_1] at hfold
  simp only [Gen.DecertifyPy.certifyPy]
  -- the translated loop matches on its pair of accumulators; up to that, it is the loop of `hfold`
  erw [hfold]
  simp only [List.isEmpty_map, List.length_map, ne_eq, decide_not, addKeys_nil_len,
    Bool.decide_eq_true, conflictCount_batch, gt_iff_lt, Int.natCast_pos, decide_eq_true_eq, certify, certifyCore]
  simp only [apply_ite (Except.map _)]
  simp only [Except.map, List.map_append, List.map_map, Function.comp_def]

/-- non-vacuity: two datasets with one data ID in one call are refused, whatever the table holds -/
example : (Gen.DecertifyPy.certifyPy ⟨0, 10⟩ [(1, 7), (1, 8)] (conflictCount ⟨0, 10⟩) []).toOption = none := by decide

end Certify

end C04.Translated
