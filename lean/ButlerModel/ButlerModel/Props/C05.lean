import ButlerModel.Model.Eval
import ButlerModel.Model.Sql3
import ButlerModel.Gen.InRangeSql
import ButlerModel.Lemmas.Sql3
/-! # C05 — a where-expression selects exactly the rows for which it is true

About `Model/Eval.lean`: the documented meaning of an expression tree (`denote`) against what its compilation to SQL evaluates to
(`sql`, over `Model/Sql3.lean`), in three truth values; the expression reaches the model as a tree (parsing is C14's subject).
`C05.Translated`: the range test `visit_in_range` as translated from the source (`Gen/InRangeSql`) is the model's. -/
namespace C05
open Eval K3

/-- The compiled range test is documented membership as soon as, inside the bounds and for a stride
other than 1, its remainder test says `(m - a) % s = 0`: bounds and stride 1 are the same on both sides. -/
theorem inRangeSql_eq_doc (fixed : Bool) (m : Int) (r : Rng)
    (h : r.a ≤ m → ((if fixed then (m - r.a).tmod r.s == 0 else m.tmod r.s == r.a % r.s) = true ↔ (m - r.a) % r.s = 0)) :
    inRangeSql fixed m r = inRangeDoc m r := by
  unfold inRangeSql inRangeDoc
  rw [Bool.eq_iff_iff]
  by_cases h3 : r.s = 1
  · simp [h3, Int.emod_one]
  · simp only [h3, ↓reduceIte, Bool.and_eq_true, decide_eq_true_eq, and_assoc]
    exact and_congr_right fun h1 => and_congr_right fun _ => h h1

/-- The repaired formula is documented membership, whatever the stride: inside the bounds `m - a` is
not negative, and there SQL's truncating remainder is the flooring one. -/
theorem inRangeSql_true (m : Int) (r : Rng) : inRangeSql true m r = inRangeDoc m r :=
  inRangeSql_eq_doc true m r fun h1 => by
    simp [Int.tmod_eq_emod_of_nonneg (Int.sub_nonneg_of_le h1)]

/-- **Range membership compiles correctly** (repaired formula): for every member — negative ones
included — and every range with a positive stride, `BETWEEN` plus `(m - a) % s = 0` with SQL's
truncating remainder is exactly membership in {a, a+s, …} ∩ [a, b]. -/
theorem inRange_correct (m : Int) (r : Rng) (hs : 0 < r.s) : inRangeSql true m r = inRangeDoc m r :=
  inRangeSql_true m r

/-- `_partial`: the earlier formula (`m % s = a mod s`) is right only for non-negative members… -/
theorem inRange_old_correct_partial (m : Int) (r : Rng) (hs : 0 < r.s) (hm : 0 ≤ m) :
    inRangeSql false m r = inRangeDoc m r :=
  inRangeSql_eq_doc false m r fun _ => by
    simp [Int.tmod_eq_emod_of_nonneg hm, Int.emod_eq_emod_iff_emod_sub_eq_zero]

/-- …and wrong for negative ones: `-3 IN (-5..5:2)` was compiled to false (repaired defect C05-a). -/
theorem inRange_old_negative_witness :
    inRangeDoc (-3) ⟨-5, 5, 2⟩ = true ∧ inRangeSql false (-3) ⟨-5, 5, 2⟩ = false ∧ inRangeSql true (-3) ⟨-5, 5, 2⟩ = true := by
  decide

/-- The compiled meaning and the documented one are the same evaluator run with the same range test. -/
theorem sql_true_eq_denote : sql true = denote := by
  funext row p
  rw [sql, denote, show inRangeSql true = inRangeDoc from funext fun m => funext (inRangeSql_true m)]

/-- **Compilation preserves meaning**: for every well-formed predicate and every row, the compiled
(SQL) value equals the documented value — in all three truth values. -/
theorem compile_correct (row : Row) : ∀ (p : P), WellFormed p → sql true row p = denote row p :=
  fun p _ => congrFun (congrFun sql_true_eq_denote row) p

/-- **Exactly the true rows**: the compiled query returns the candidate rows whose documented value is
true, in order, nothing else (a row whose value is null is dropped). -/
theorem selects_exactly (p : P) (h : WellFormed p) (rows : List Row) :
    select (sql true) p rows = select denote p rows := by
  rw [sql_true_eq_denote]

theorem null_comparison_is_unknown (op : String) (v : V) : cmpV op .null v = .nn ∧ cmpV op v .null = .nn := by
  cases v <;> simp [cmpV]

theorem not_of_unknown_drops_row (row : Row) (p : P) (h : denote row p = .nn) : denote row (.not p) = .nn := by
  show not3 (denote row p) = .nn
  rw [h]
  rfl

theorem null_test_is_two_valued (row : Row) (a : Sc) (n : Bool) : denote row (.isNull a n) ≠ .nn := by
  have h : ∀ b, ofBool b ≠ .nn := by decide
  exact h _

/-- A boolean column that is NULL is unknown, and stays unknown under NOT: the row is dropped either way. -/
theorem null_flag_unknown_under_not (row : Row) (n : String) (h : row n = .null) :
    denote row (.flag n) = .nn ∧ denote row (.not (.flag n)) = .nn := by
  simp [denote, evalWith, h, not3]

theorem not_in_is_negation (row : Row) (a : Sc) (l : List V) (r : List Rng) :
    denote row (.inSet a l r true) = not3 (denote row (.inSet a l r false)) :=
  rfl

example : denote (fun _ => .int 4) (.inSet (.sub (.col "detector") (.lit (.int 7))) [] [⟨-5, 5, 2⟩] false) = .tt := by decide
example : WellFormed (.inSet (.col "d") [] [⟨-5, 5, 2⟩] false) := by simp [WellFormed]

end C05

/-! ## The range compilation as it is in the source **now**

`Gen.InRange.inRangeSql` is `SqlColumnVisitor.visit_in_range`, translated from the working tree on every
run (`translate/gen_inrange.py`).  A change to that function changes this definition, and the theorems
below must still go through. -/
namespace C05.Translated
open Eval

/-- **The translated compilation of `member IN (a..b:s)`, for any member expression**, evaluates to the
hand-written `Eval.inRangeSql true` (the one `compile_correct` is about) when the member is an integer,
and to unknown when it is not (NULL in particular). -/
theorem eval_inRangeSql {env : Nat → Sql.V} {e : Sql.E} {a b s : Int} (hs : 0 < s) :
    Sql.eval env (Gen.InRange.inRangeSql e a (some (b + 1)) s) =
      match Sql.eval env e with
      | .int m => .bool (inRangeSql true m ⟨a, b, s⟩)
      | _ => .null := by
  have hsz : s ≠ 0 := by omega
  unfold Gen.InRange.inRangeSql inRangeSql
  simp only [Option.isNone_some, Bool.false_eq_true, ↓reduceIte, Option.getD_some, Int.add_sub_cancel]
  cases hv : Sql.eval env e with
  | int m =>
    by_cases hEq : a = b
    · -- a one-point range is compiled to an equality test
      subst hEq
      have : (a ≤ m ∧ m ≤ a) ↔ m = a := ⟨fun h => by omega, fun h => by omega⟩
      by_cases hm : m = a <;> simp [Sql.eval, Sql.cmp, hv, this, hm]
    · -- otherwise to BETWEEN, and for a stride other than 1 to BETWEEN and the remainder test: evaluate
      by_cases h1 : s = 1 <;>
        simp [hEq, h1, hsz, hv, Sql.eval, Sql.cmp, Sql.arith, Sql.and3_bool, Bool.beq_eq_decide_eq]
  | null | bool _ =>
    -- whichever of the three tests it is compiled to, a comparison with a member that is no integer is NULL
    simp only [apply_ite (Sql.eval env), Sql.eval, hv, Sql.cmp, Sql.arith, Sql.and3, ite_self]

/-- The hand-written `Eval.inRangeSql true` (used by `compile_correct`) is the translated function. -/
theorem model_is_translation (env : Nat → Sql.V) (m a b s : Int) (hm : env 0 = .int m) (hs : 0 < s) (hab : a ≤ b) :
    Sql.eval env (Gen.InRange.inRangeSql (.col 0) a (some (b + 1)) s) = .bool (inRangeSql true m ⟨a, b, s⟩) := by
  rw [eval_inRangeSql hs, Sql.eval, hm]

/-- **The translated compilation of `m IN (a..b:s)` is exactly documented membership**, for every
integer member (negative ones included), every `a ≤ b` and every positive stride. -/
theorem translated_inRange_correct (env : Nat → Sql.V) (m a b s : Int) (hm : env 0 = .int m) (hs : 0 < s) (hab : a ≤ b) :
    Sql.eval env (Gen.InRange.inRangeSql (.col 0) a (some (b + 1)) s) = .bool (inRangeDoc m ⟨a, b, s⟩) := by
  rw [model_is_translation env m a b s hm hs hab, C05.inRangeSql_true]

/-- A NULL member makes the compiled test unknown, as the documented meaning says. -/
theorem translated_inRange_null (env : Nat → Sql.V) (a b s : Int) (hm : env 0 = .null) (hs : 0 < s) :
    Sql.eval env (Gen.InRange.inRangeSql (.col 0) a (some (b + 1)) s) = .null := by
  rw [eval_inRangeSql hs, Sql.eval, hm]

example : Sql.eval (fun _ => .int (-3)) (Gen.InRange.inRangeSql (.col 0) (-5) (some 6) 2) = .bool true := by decide

end C05.Translated
