import ButlerModel.Model.ConfigKeys
import ButlerModel.Gen.ConfigPy
import ButlerModel.Lemmas.List
/-! # C18 — core value objects survive every serialisation unchanged: the part about `Config` keys

About `Model/ConfigKeys.lean` (the serialisation round trips themselves are left to the oracles of the check).  That `_splitIntoKeys` gives back the key tuple a name of `names()` was made from is
proved, for a delimiter that occurs in no key, when no key ends in a backslash, and refuted without the latter
(`split_join_refuted`); that every key tuple `nameTuples()` reports finds a value in the tree is proved for all
trees with distinct dict keys. -/
namespace C18
open ConfigKeys

theorem splitOn_ne_nil (d : Char) (s : Str) : splitOn d s ≠ [] := by
  fun_cases splitOn d s <;> exact List.cons_ne_nil _ _

theorem of_not_mem_cons {d c : Char} {cs : Str} (h : ¬ d ∈ c :: cs) : (c == d) = false ∧ ¬ d ∈ cs :=
  ⟨beq_false_of_ne (List.ne_of_not_mem_cons h).symm, List.not_mem_of_not_mem_cons h⟩

theorem splitOn_cons_of_ne {d c : Char} {cs h : Str} {t : List Str} (hc : (c == d) = false) (e : splitOn d cs = h :: t) :
    splitOn d (c :: cs) = (c :: h) :: t := by
  simp only [splitOn, hc, e, Bool.false_eq_true, if_false]

theorem splitOn_append_of_not_mem {d : Char} {a s h : Str} {t : List Str} (ha : ¬ d ∈ a) (e : splitOn d s = h :: t) :
    splitOn d (a ++ s) = (a ++ h) :: t := by
  induction a with
  | nil => exact e
  | cons c cs ih =>
    obtain ⟨hc, hcs⟩ := of_not_mem_cons ha
    exact splitOn_cons_of_ne hc (ih hcs)

theorem splitOn_free (d : Char) (s : Str) (h : ¬ d ∈ s) : splitOn d s = [s] := by
  simpa using splitOn_append_of_not_mem h (rfl : splitOn d [] = [[]])

theorem splitOn_append_free (d : Char) (a : Str) (rest : Str) (h : ¬ d ∈ a) :
    splitOn d (a ++ d :: rest) = a :: splitOn d rest := by
  simpa using splitOn_append_of_not_mem h (by simp [splitOn] : splitOn d (d :: rest) = [] :: splitOn d rest)

theorem splitOn_joinWith (d : Char) (ks : List Str) (hne : ks ≠ []) (h : ∀ k ∈ ks, ¬ d ∈ k) :
    splitOn d (joinWith d ks) = ks := by
  fun_induction joinWith d ks with
  | case1 => exact absurd rfl hne
  | case2 x => exact splitOn_free d x (h x List.mem_cons_self)
  | case3 x y r ih =>
    rw [splitOn_append_free d x _ (h x List.mem_cons_self), ih (List.cons_ne_nil _ _) fun k hk => h k (List.mem_cons_of_mem _ hk)]

theorem escape_free (d : Char) (s : Str) (h : ¬ d ∈ s) : escape d s = s := by
  induction s with
  | nil => rfl
  | cons c cs ih =>
    obtain ⟨hc, hcs⟩ := of_not_mem_cons h
    simp [escape, hc, ih hcs]

def NoTrailingBackslash (ks : List Str) : Prop := ∀ k ∈ ks, k.getLast? ≠ some '\\'

theorem hasEscaped_head (d : Char) (rest : Str) (hd : d ≠ '\\') : hasEscaped d (d :: rest) = hasEscaped d rest := by
  cases rest with
  | nil => rfl
  | cons r rs => simp [hasEscaped, hd]

/-- an escaped delimiter ends in the delimiter and starts with a backslash, so none lies in or begins at the end of a prefix
that has no delimiter and no backslash at its end -/
theorem hasEscaped_append (d : Char) (a s : Str) (ha : ¬ d ∈ a) (hl : a.getLast? ≠ some '\\') :
    hasEscaped d (a ++ s) = hasEscaped d s := by
  fun_induction hasEscaped d a with
  | case1 => rfl
  | case2 c =>
    have hcb : c ≠ '\\' := by simpa using hl
    cases s <;> simp [hasEscaped, hcb]
  | case3 c c2 r2 ih =>
    have hcs := (of_not_mem_cons ha).2
    rw [← ih hcs (by simpa [List.getLast?_cons_cons] using hl)]
    simp [hasEscaped, (of_not_mem_cons hcs).1]

theorem hasEscaped_joinWith (d : Char) (hd : d ≠ '\\') (ks : List Str) (h : ∀ k ∈ ks, ¬ d ∈ k) (hb : NoTrailingBackslash ks) :
    hasEscaped d (joinWith d ks) = false := by
  fun_induction joinWith d ks with
  | case1 => rfl
  | case2 x => exact x.append_nil ▸ hasEscaped_append d x [] (h x List.mem_cons_self) (hb x List.mem_cons_self)
  | case3 x y r ih =>
    rw [hasEscaped_append d x _ (h x List.mem_cons_self) (hb x List.mem_cons_self), hasEscaped_head d _ hd]
    exact ih (fun k hk => h k (List.mem_cons_of_mem _ hk)) (fun k hk => hb k (List.mem_cons_of_mem _ hk))

/-- **Every name `names()` reports splits back into the key tuple it was made from**, when the
delimiter (as `names()` chooses it) occurs in no key and no key ends in a backslash. -/
theorem split_join_partial (d : Char) (ks : List Str) (hd : isAlnum d = false) (hd2 : d ≠ '\\') (hne : ks ≠ [])
    (h : ∀ k ∈ ks, ¬ d ∈ k) (hb : NoTrailingBackslash ks) : split (join d ks) = .ok ks := by
  have hmap : ks.map (escape d) = ks :=
    (List.map_congr_left fun k hk => escape_free d k (h k hk)).trans (List.map_id ks)
  simp only [split, join, hd, Bool.false_eq_true, if_false, hmap, hasEscaped_joinWith d hd2 ks h hb, splitOn_joinWith d ks hne h]

/-- The full statement (any keys) is **false**: a key ending in a backslash makes the reported name
unusable (the delimiter after it reads as an escaped delimiter). Witness: `{"a\\": {"b": 1}}`, whose
name `.a\\.b` splits into the single key `a.b`. -/
theorem split_join_refuted :
    ∃ (d : Char) (ks : List Str), isAlnum d = false ∧ d ≠ '\\' ∧ (∀ k ∈ ks, ¬ d ∈ k) ∧ split (join d ks) ≠ .ok ks := by
  refine ⟨'.', [['a', '\\'], ['b']], by decide, by decide, by decide, ?_⟩
  have : split (join '.' [['a', '\\'], ['b']]) = .ok [['a', '.', 'b']] := by rfl
  rw [this]
  intro h
  simp at h

/-! ## lookup in the tree -/

theorem find_cons_dict (items : List (Str × Tree)) (k : Str) (sub : Tree) (rest : List Key)
    (h : items.find? (·.1 == k) = some (k, sub)) : find (.dict items) (.s k :: rest) = find sub rest := by
  simp [find, h]

theorem find_cons_list (items : List Tree) (n : Nat) (sub : Tree) (rest : List Key)
    (h : items[n]? = some sub) : find (.list items) (.i n :: rest) = find sub rest := by
  simp [find, h]

/-- Dict keys are distinct at every level (as in a Python `dict`). -/
inductive WFTree : Tree → Prop where
  | leaf (v : Nat) : WFTree (.leaf v)
  | dict (items : List (Str × Tree)) : (items.map (·.1)).Nodup → (∀ p ∈ items, WFTree p.2) → WFTree (.dict items)
  | list (items : List Tree) : (∀ t ∈ items, WFTree t) → WFTree (.list items)

/-- the paths below one entry: the step to it, alone or followed by a path of the entry -/
def below (k : Key) (sub : Tree) : List (List Key) := [k] :: (paths sub).map (k :: ·)

theorem pathsDict_eq (items : List (Str × Tree)) : pathsDict items = items.flatMap fun x => below (.s x.1) x.2 := by
  induction items with
  | nil => rfl
  | cons x rest ih => rw [pathsDict, ih, List.flatMap_cons]; rfl

theorem pathsList_eq (items : List Tree) (n : Nat) : pathsList n items = (items.zipIdx n).flatMap fun x => below (.i x.2) x.1 := by
  induction items generalizing n with
  | nil => rfl
  | cons x rest ih => rw [pathsList, ih, List.zipIdx_cons, List.flatMap_cons]; rfl

theorem find_below {t sub : Tree} {k : Key} (hk : ∀ q, find t (k :: q) = find sub q) (ih : ∀ q ∈ paths sub, (find sub q).isSome = true)
    {p : List Key} (hp : p ∈ below k sub) : (find t p).isSome = true := by
  rcases List.mem_cons.mp hp with rfl | hp
  · rw [hk]
    cases sub <;> rfl
  · obtain ⟨q, hq, rfl⟩ := List.mem_map.mp hp
    rw [hk]
    exact ih q hq

/-- **Every key tuple reported for a configuration tree retrieves a value** (`nameTuples()` /
`names()` → `__getitem__`), for every tree with string dict keys and lists, at any depth. -/
theorem paths_find : ∀ (t : Tree), WFTree t → ∀ p ∈ paths t, (find t p).isSome = true := by
  intro t hwf
  induction hwf with
  | leaf v => intro p hp; cases hp
  | dict items hn _ ih =>
    intro p hp
    rw [paths, pathsDict_eq] at hp
    obtain ⟨x, hx, hp⟩ := List.mem_flatMap.mp hp
    exact find_below (fun q => find_cons_dict items x.1 x.2 q (List.find?_fst_of_mem (List.pairwise_map.mp hn) hx)) (ih x hx) hp
  | list items _ ih =>
    intro p hp
    rw [paths, pathsList_eq] at hp
    obtain ⟨x, hx, hp⟩ := List.mem_flatMap.mp hp
    have hi : items[x.2]? = some x.1 := List.mem_zipIdx_iff_getElem?.mp hx
    exact find_below (fun q => find_cons_list items x.2 x.1 q hi) (ih x.1 (List.mem_of_getElem? hi)) hp

theorem pathsList_find : ∀ (items : List Tree) (n : Nat) (pre all : List Tree), all = pre ++ items → pre.length = n →
    (∀ t ∈ all, WFTree t) → ∀ p ∈ pathsList n items, (find (.list all) p).isSome = true := by
  rintro items _ pre _ rfl rfl hwf p hp
  rw [pathsList_eq] at hp
  obtain ⟨x, hx, hp⟩ := List.mem_flatMap.mp hp
  obtain ⟨hle, hi⟩ := List.mem_zipIdx_iff_le_and_getElem?_sub.mp hx
  have hget : (pre ++ items)[x.2]? = some x.1 := by rw [List.getElem?_append_right hle, hi]
  exact find_below (fun q => find_cons_list _ x.2 x.1 q hget) (paths_find x.1 (hwf x.1 (List.mem_of_getElem? hget))) hp

/-! ## dataset type names -/

/-- `splitDatasetTypeName(nameWithComponent(name, comp)) = (name, comp)` for names without a dot. -/
theorem dstype_name_roundtrip (name comp : Str) (h : ¬ '.' ∈ name) :
    splitFirstDot (nameWithComponent name comp) = (name, some comp) := by
  unfold nameWithComponent
  induction name with
  | nil => simp [splitFirstDot]
  | cons c cs ih =>
    obtain ⟨hc, hcs⟩ := of_not_mem_cons h
    simp only [List.cons_append, splitFirstDot, hc, Bool.false_eq_true, ↓reduceIte, ih hcs]

example : split (join '.' [['a'], ['b', 'c']]) = .ok [['a'], ['b', 'c']] := by rfl
example : paths (.dict [(['a'], .list [.leaf 1, .dict [(['b'], .leaf 2)]])]) =
    [[.s ['a']], [.s ['a'], .i 0], [.s ['a'], .i 1], [.s ['a'], .i 1, .s ['b']]] := by decide

end C18

/-! ### `Config._splitIntoKeys` as translated from the source on every run (`Gen/ConfigPy.lean`, `translate/gen_config.py`) -/
namespace C18.Translated
open ConfigKeys

/-- the generic scans test a prefix character by character with the pattern's character on the left,
the model's own scans with it on the right -/
theorem isPrefixOf_cons₂ (x a : Char) (p s : Str) : (x :: p).isPrefixOf (a :: s) = (a == x && p.isPrefixOf s) := by
  rw [List.isPrefixOf, BEq.comm]

theorem isInfixB_escaped (d : Char) (s : Str) : isInfixB ['\\', d] s = hasEscaped d s := by
  induction s with
  | nil => rfl
  | cons a r ih =>
    rw [isInfixB, ih]
    cases r with
    | nil => simp only [hasEscaped, isPrefixOf_cons₂, List.isPrefixOf_cons_nil, Bool.and_false, Bool.or_false]
    | cons b r' => simp only [hasEscaped, isPrefixOf_cons₂, List.isPrefixOf_nil_left, Bool.and_true]

theorem isInfixB_doubled (d : Char) (s : Str) : isInfixB ['\\', '\\', d] s = hasDoubled d s := by
  induction s with
  | nil => rfl
  | cons a r ih =>
    rw [isInfixB, ih]
    match r with
    | [] | [_] => simp only [hasDoubled, isPrefixOf_cons₂, List.isPrefixOf_cons_nil, Bool.and_false, Bool.or_false]
    | b :: c :: r' => simp only [hasDoubled, isPrefixOf_cons₂, List.isPrefixOf_nil_left, Bool.and_true, Bool.and_assoc]

theorem replaceSub_escaped (d : Char) : ∀ (s : Str), replaceSub ['\\', d] ['\r'] s = unescapeToTemp d s := by
  intro s
  fun_induction unescapeToTemp d s with
  | case1 => simp [replaceSub]
  | case2 a =>
    rw [replaceSub]
    simp [isPrefixOf_cons₂, replaceSub]
  | case3 a b r h ih | case4 a b r h ih =>
    rw [replaceSub]
    simp [isPrefixOf_cons₂, h, ih]

/-- **`Config._splitIntoKeys` (string keys) as translated from the source on every run is the model's `split`** — the function the
round-trip theorems and refutations of this file are about. -/
theorem translated_split (key : Str) : Gen.ConfigPy.splitIntoKeys key = split key := by
  cases key with
  | nil => rfl
  | cons d rest =>
    simp only [Gen.ConfigPy.splitIntoKeys, split, head, List.isEmpty_cons, List.headD_cons, List.tail_cons, Bool.false_eq_true, if_false,
      isInfixB_escaped, isInfixB_doubled, replaceSub_escaped, Option.isSome_some, Option.isSome_none, if_true]
    cases isAlnum d <;> rfl

end C18.Translated
