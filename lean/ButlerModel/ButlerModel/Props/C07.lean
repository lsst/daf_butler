import ButlerModel.Model.Txn
import ButlerModel.Model.TxnCache
import ButlerModel.Gen.DsTxnPy
/-! # C07 — a failed transaction block leaves registry and datastore untouched

Proved of `Model/Txn.lean` (`C07`) and `Model/TxnCache.lean` (`C07.Cache`) for every program and nesting depth — for the
artifacts of the second only in part: what a `pruneDatasets` inside a failed block deleted does not come back
(`Cache.failed_block_files_restored_partial`) — and of `DatastoreTransaction` / `Datastore.transaction` as translated from the
source (`C07.Translated`, `Gen/DsTxnPy`). -/
namespace C07
open Txn

theorem rollback_exact (A files : List Nat) (h : ∀ a ∈ A, a ∉ files) : rollbackFiles A (A ++ files) = files := by
  unfold rollbackFiles
  rw [List.filter_append, List.filter_eq_nil_iff.mpr (by simp),
    List.filter_eq_self.mpr fun f hf => by simpa using fun hc => h f hc hf, List.nil_append]

/-- What a program does to a state whose transaction stack is `log :: rest`: it prepends the ids it
wrote (and did not roll back) to both the artifacts and the current undo log, and leaves the outer
transactions alone. -/
def Effect (fix : Bool) (res : S × Bool) (s : S) (log : List Nat) (rest : List (List Nat)) (allowed : List Nat) : Prop :=
  ∃ A, res.1.stack = (A ++ log) :: rest ∧ res.1.files = A ++ s.files ∧ (∀ a ∈ A, a ∈ allowed)

theorem Effect.stay {s : S} {log : List Nat} {rest : List (List Nat)} (hs : s.stack = log :: rest) {b : Bool}
    {allowed : List Nat} : Effect true (s, b) s log rest allowed :=
  ⟨[], hs, rfl, fun _ h => nomatch h⟩

/-- What a block does, given what its body did (`A`: the artifacts the body left): a failed block gives back the state
it started in; a block that ends normally hands `A` to the enclosing transaction. -/
theorem run_block (fuel : Nat) (body : List Prog) (s : S)
    (h : Effect true (runList true fuel body { s with stack := [] :: s.stack }) s [] s.stack (putsL body))
    (hf : ∀ a ∈ putsL body, a ∉ s.files) :
    run true (fuel + 1) (.block body) s = (s, true) ∨
    ∃ A s', run true (fuel + 1) (.block body) s = (s', false) ∧ s'.files = A ++ s.files ∧ (∀ a ∈ A, a ∈ putsL body) ∧
      s'.stack = s.stack.modifyHead (A ++ ·) := by
  obtain ⟨A, hA1, hA2, hA3⟩ := h
  simp only [run]
  generalize runList true fuel body { s with stack := [] :: s.stack } = res at hA1 hA2
  obtain ⟨s2, failed⟩ := res
  simp only [List.append_nil] at hA1 hA2
  cases failed with
  | true =>
    left
    simp only [↓reduceIte, hA1, hA2, rollback_exact A s.files fun a ha => hf a (hA3 a ha)]
  | false =>
    -- the block ended normally: `A` goes to the enclosing transaction, if there is one
    right
    simp only [Bool.false_eq_true, ↓reduceIte, hA1]
    cases s.stack <;> exact ⟨A, _, rfl, hA2, hA3, rfl⟩

theorem effect_all (fuel : Nat) :
    (∀ (p : Prog) (s : S) (log : List Nat) (rest : List (List Nat)),
        s.stack = log :: rest → (puts p).Nodup → (∀ a ∈ puts p, a ∉ s.files) →
        Effect true (run true fuel p s) s log rest (puts p)) ∧
    (∀ (ps : List Prog) (s : S) (log : List Nat) (rest : List (List Nat)),
        s.stack = log :: rest → (putsL ps).Nodup → (∀ a ∈ putsL ps, a ∉ s.files) →
        Effect true (runList true fuel ps s) s log rest (putsL ps)) := by
  induction fuel with
  | zero => exact ⟨fun p s log rest hs _ _ => .stay hs, fun ps s log rest hs _ _ => .stay hs⟩
  | succ n ih =>
    constructor
    · intro p s log rest hs hn hf
      cases p with
      | put id => exact ⟨[id], by simp [run, doPut, hs], by simp [run, doPut, hs], by simp [puts]⟩
      | fail => exact .stay hs
      | block body =>
        rcases run_block n body s (ih.2 body { s with stack := [] :: s.stack } [] s.stack rfl hn hf) hf with
          hr | ⟨A, s', hr, h1, h2, h3⟩
        · rw [hr]
          exact .stay hs
        · rw [hr]
          exact ⟨A, by rw [h3, hs]; rfl, h1, h2⟩
      | tryBlock body => exact ih.1 (.block body) s log rest hs hn hf
    · intro ps s log rest hs hn hf
      cases ps with
      | nil => exact .stay hs
      | cons p ps =>
        obtain ⟨hn1, hn2, hdis⟩ := List.nodup_append.mp (show (puts p ++ putsL ps).Nodup from hn)
        obtain ⟨A, hA1, hA2, hA3⟩ :=
          ih.1 p s log rest hs hn1 fun a ha => hf a (List.mem_append_left _ ha)
        simp only [runList]
        generalize run true n p s = res at hA1 hA2
        obtain ⟨s1, failed⟩ := res
        simp only at hA1 hA2
        cases failed with
        | true => exact ⟨A, hA1, hA2, fun a ha => List.mem_append_left _ (hA3 a ha)⟩
        | false =>
          -- what `p` wrote is not written again by `ps`, and the rest of `s1.files` was there before
          obtain ⟨B, hB1, hB2, hB3⟩ := ih.2 ps s1 (A ++ log) rest hA1 hn2 fun a ha hc =>
            (List.mem_append.mp (hA2 ▸ hc)).elim (fun h => hdis _ (hA3 a h) a ha rfl)
              (hf a (List.mem_append_right _ ha))
          refine ⟨B ++ A, by simp [hB1], by simp [hB2, hA2], fun a ha => ?_⟩
          exact (List.mem_append.mp ha).elim (fun h => List.mem_append_right _ (hB3 a h))
            (fun h => List.mem_append_left _ (hA3 a h))

/-- Freshness: the program only writes datasets that are not there yet, each once. -/
def Fresh (body : List Prog) (s : S) : Prop := (putsL body).Nodup ∧ ∀ a ∈ putsL body, a ∉ s.files

/-- **A failed `Butler.transaction()` block restores everything** — the artifacts under the root,
the registry rows and the datastore's own transaction state — for every program, at every nesting
depth, also when inner failures were caught and the outer block went on to fail. -/
theorem failed_block_restores (fuel : Nat) (body : List Prog) (s : S) (hfresh : Fresh body s)
    (h : (run true (fuel + 1) (.block body) s).2 = true) :
    (run true (fuel + 1) (.block body) s).1 = s := by
  rcases run_block fuel body s ((effect_all fuel).2 body _ [] s.stack rfl hfresh.1 hfresh.2) hfresh.2 with
    hr | ⟨_, _, hr, -⟩
  · rw [hr]
  · rw [hr] at h
    cases h

/-- The nesting depth of the datastore's transaction state is restored after **any** block, succeeded or failed (after a
commit the enclosing log has grown by what the block registered). -/
theorem txn_state_restored (fuel : Nat) (body : List Prog) (s : S) (hfresh : Fresh body s) :
    ((run true (fuel + 1) (.block body) s).1.stack).length = s.stack.length := by
  rcases run_block fuel body s ((effect_all fuel).2 body _ [] s.stack rfl hfresh.1 hfresh.2) hfresh.2 with
    hr | ⟨A, s', hr, -, -, h3⟩
  · rw [hr]
  · rw [hr, h3, List.length_modifyHead]

/-- `outer{ put 1; try: inner{ put 2; raise }; put 3; raise }` -/
def witness : List Prog := [.put 1, .tryBlock [.put 2, .fail], .put 3, .fail]

/-- The earlier code (parent restored only on success) did **not** have this property: the regression witness leaves
artifact 1 behind and the transaction state dangling. -/
theorem old_code_leaks : (run false 10 (.block witness) {}).1.files = [1] ∧
    (run false 10 (.block witness) {}).1.stack ≠ [] := by decide

theorem new_code_restores_witness : (run true 10 (.block witness) {}).1 = {} := by decide

example : Fresh witness {} := by unfold Fresh witness; decide

end C07

/-! ## Registry rows behind read-through caches, and `pruneDatasets` inside a block
(model `TxnCache`) -/
namespace C07.Cache
open TxnCache

/-- Rule induction over `run` / `runList`.  `R X s s'` relates the states before and after a program that prunes at most the
datasets `X`: if it holds of doing nothing (no fuel, `fail`, the empty list), of the three primitive operations and of rolling
a block back, may forget about later steps (`stop`) and is closed under sequencing, then it holds of every run. -/
theorem run_rel (b : Bool) (R : List Nat → S → S → Prop) (stay : ∀ X s, R X s s)
    (ins : ∀ id s, R [] s (doIns s id)) (read : ∀ s, R [] s (doRead s)) (prune : ∀ id s, R [id] s (doPrune s id))
    (rollback : ∀ X s s2, R X s s2 →
      R X s { rows := s.rows, ds := s.ds, files := s2.files, cache := if b then none else s2.cache })
    (stop : ∀ X Y s s1, R X s s1 → R (X ++ Y) s s1)
    (seq : ∀ X Y s s1 s2, R X s s1 → R Y s1 s2 → R (X ++ Y) s s2) (fuel : Nat) :
    (∀ p s, R (prunes p) s (run b fuel p s).1) ∧ (∀ ps s, R (prunesL ps) s (runList b fuel ps s).1) := by
  induction fuel with
  | zero => exact ⟨fun p s => stay _ s, fun ps s => stay _ s⟩
  | succ n ih =>
    constructor
    · intro p s
      cases p with
      | ins id => exact ins id s
      | read => exact read s
      | prune id => exact prune id s
      | fail => exact stay _ s
      | block body =>
        have h := ih.2 body s
        simp only [run]
        generalize runList b n body s = res at h
        obtain ⟨s2, failed⟩ := res
        cases failed
        · exact h
        · exact rollback _ s s2 h
      | tryBlock body => exact ih.1 (.block body) s
    · intro ps s
      cases ps with
      | nil => exact stay _ s
      | cons p ps =>
        have h1 := ih.1 p s
        simp only [runList]
        generalize run b n p s = res at h1
        obtain ⟨s1, failed⟩ := res
        cases failed
        · exact seq _ _ s s1 _ h1 (ih.2 ps s1)
        · exact stop _ _ s s1 h1

/-- The caches never disagree with the database: coherence is preserved by every program, at every
depth, whether blocks fail, are caught, or commit. -/
theorem coherent_all (fuel : Nat) :
    (∀ (p : Prog) (s : S), Coherent s → Coherent (run true fuel p s).1) ∧
    (∀ (ps : List Prog) (s : S), Coherent s → Coherent (runList true fuel ps s).1) := by
  refine run_rel true (fun _ s s' => Coherent s → Coherent s') (fun _ _ h => h) (fun _ _ _ => Or.inl rfl) ?_ ?_
    (fun _ _ _ _ _ => Or.inl rfl) (fun _ _ _ _ h => h) (fun _ _ _ _ _ h1 h2 hc => h2 (h1 hc)) fuel
  · intro s h
    fun_cases doRead s with
    | case1 => exact h  -- the cache is loaded already
    | case2 => exact Or.inr rfl
  · intro id s h
    unfold doPrune
    split <;> exact h

/-- Artifacts: a program only ever *removes* artifacts, and only those it prunes. -/
theorem files_filter_all (b : Bool) (fuel : Nat) :
    (∀ (p : Prog) (s : S), ∃ P : Nat → Bool, (run b fuel p s).1.files = s.files.filter P ∧
        ∀ f, f ∉ prunes p → P f = true) ∧
    (∀ (ps : List Prog) (s : S), ∃ P : Nat → Bool, (runList b fuel ps s).1.files = s.files.filter P ∧
        ∀ f, f ∉ prunesL ps → P f = true) := by
  have noop : ∀ (X l : List Nat), ∃ P : Nat → Bool, l = l.filter P ∧ ∀ f, f ∉ X → P f = true :=
    fun _ l => ⟨fun _ => true, (List.filter_eq_self.mpr fun _ _ => rfl).symm, fun _ _ => rfl⟩
  refine run_rel b (fun X s s' => ∃ P : Nat → Bool, s'.files = s.files.filter P ∧ ∀ f, f ∉ X → P f = true)
    (fun _ _ => noop _ _) (fun _ _ => noop _ _) ?_ ?_ (fun _ _ _ h => h) ?_ ?_ fuel
  · intro s
    unfold doRead
    split <;> exact noop _ _
  · intro id s
    unfold doPrune
    split
    · exact ⟨fun f => f != id, rfl, fun f hf => by simpa using hf⟩
    · exact noop _ _
  · exact fun X Y s s1 ⟨P, h, g⟩ => ⟨P, h, fun f hf => g f fun hc => hf (List.mem_append_left _ hc)⟩
  · intro X Y s s1 s2 ⟨P1, h1, g1⟩ ⟨P2, h2, g2⟩
    refine ⟨fun f => P2 f && P1 f, by rw [h2, h1, List.filter_filter], fun f hf => ?_⟩
    exact Bool.and_eq_true_iff.mpr
      ⟨g2 f fun hc => hf (List.mem_append_right _ hc), g1 f fun hc => hf (List.mem_append_left _ hc)⟩

/-- **A failed block leaves the registry as it was**, as the database has it *and* as the cached
interfaces show it — at every nesting depth. -/
theorem failed_block_registry_restored (fuel : Nat) (body : List Prog) (s : S) (hc : Coherent s)
    (h : (run true (fuel + 1) (.block body) s).2 = true) :
    let s' := (run true (fuel + 1) (.block body) s).1
    s'.rows = s.rows ∧ s'.ds = s.ds ∧ view s' = view s := by
  simp only [run] at h ⊢
  generalize runList true fuel body s = res at h
  obtain ⟨s2, failed⟩ := res
  cases failed with
  | false => simp at h
  | true =>
    refine ⟨rfl, rfl, ?_⟩
    simp only [view, ↓reduceIte]
    rcases hc with hc | hc <;> simp [hc]

/-- Artifacts after a failed block: nothing new, and everything that no `pruneDatasets` in the
block named is still there. -/
theorem failed_block_files (b : Bool) (fuel : Nat) (body : List Prog) (s : S) :
    let s' := (run b (fuel + 1) (.block body) s).1
    (∀ f ∈ s'.files, f ∈ s.files) ∧ (∀ f ∈ s.files, f ∉ prunesL body → f ∈ s'.files) := by
  obtain ⟨P, h1, h2⟩ := (files_filter_all b (fuel + 1)).1 (.block body) s
  simp only [h1]
  exact ⟨fun f hf => (List.mem_filter.mp hf).1, fun f hf hn => List.mem_filter.mpr ⟨hf, h2 f hn⟩⟩

/-- `_partial`: the artifacts are restored exactly by a failed block **that contains no
pruneDatasets**.  The full statement (for every program) is false of the code — see
`prune_in_failed_block_loses_artifact`. -/
theorem failed_block_files_restored_partial (b : Bool) (fuel : Nat) (body : List Prog) (s : S)
    (hnp : prunesL body = []) : (run b (fuel + 1) (.block body) s).1.files = s.files := by
  obtain ⟨P, h1, h2⟩ := (files_filter_all b (fuel + 1)).1 (.block body) s
  rw [h1]
  exact List.filter_eq_self.mpr fun f _ => h2 f (by rw [show prunes (.block body) = [] from hnp]; exact List.not_mem_nil)

/-- Known finding C07-c, as a theorem about the model: `with butler.transaction():
pruneDatasets([1], purge, unstore); raise` keeps dataset 1 registered and loses its artifact. -/
theorem prune_in_failed_block_loses_artifact :
    (run true 5 (.block [.prune 1, .fail]) { ds := [1], files := [1] }).1 = { ds := [1], files := [] } := by decide

/-- Regression witness of the earlier code (caches not dropped on rollback): insert a row, read it
through the cache, fail — the cached interface keeps showing the rolled-back row. -/
theorem old_code_stale_cache :
    let s' := (run false 5 (.block [.ins 2, .read, .fail]) { rows := [1] }).1
    s'.rows = [1] ∧ view s' = [2, 1] := by decide

example : Coherent { rows := [1] } := Or.inl rfl

end C07.Cache

/-! ### The datastore's undo-log transactions as translated from the source on every run (`Gen/DsTxnPy.lean`)

`Datastore.transaction`, `DatastoreTransaction.registerUndo / rollback / commit` are translated by `translate/gen_dstxn.py`; the
theorems below are about those translations, for every stack of enclosing transactions and every list of registered events. -/
namespace C07.Translated
open Gen.DsTxnPy

def registerAll (evs : List Nat) (s : St) : St := evs.foldl (fun s e => register e s) s

theorem registerAll_eq (log : List Nat) (rest : Tx) (u evs : List Nat) :
    registerAll evs (log :: rest, u) = ((log ++ evs) :: rest, u) := by
  induction evs generalizing log with
  | nil => simp [registerAll]
  | cons e r ih =>
    simp only [registerAll, List.foldl_cons, register, registerUndo] at ih ⊢
    rw [ih]; simp

/-! What leaving does to a stack whose innermost log is `log`: the three equations every theorem below rests on. -/
theorem leave_failed (log : List Nat) (st : Tx) (u : List Nat) : leave true (log :: st, u) = (st, u ++ log.reverse) := rfl

theorem leave_committed (log p : List Nat) (rest : Tx) (u : List Nat) :
    leave false (log :: p :: rest, u) = ((p ++ log) :: rest, u) := rfl

theorem leave_outermost (log u : List Nat) : leave false ([log], u) = ([], u) := rfl

/-- **A failed block undoes everything it registered, newest first, and nothing else; the enclosing transaction is current again
with its log untouched** (whatever the enclosing stack). -/
theorem failed_block (st : Tx) (u evs : List Nat) :
    leave true (registerAll evs (enter (st, u))) = (st, u ++ evs.reverse) := by
  simp only [enter, registerAll_eq, leave_failed, List.nil_append]

/-- **A block that ends normally undoes nothing and hands its events, in order, to the enclosing transaction** -/
theorem committed_block (p : List Nat) (rest : Tx) (u evs : List Nat) :
    leave false (registerAll evs (enter (p :: rest, u))) = ((p ++ evs) :: rest, u) := by
  simp only [enter, registerAll_eq, leave_committed, List.nil_append]

/-- … and an outermost block that ends normally leaves no transaction behind -/
theorem committed_outermost (u evs : List Nat) :
    leave false (registerAll evs (enter ([], u))) = ([], u) := by
  simp only [enter, registerAll_eq, leave_outermost]

/-- **Nesting**: what an inner block committed is undone with the outer block when that fails later — all of it, newest first. -/
theorem inner_commit_then_outer_failure (st : Tx) (u a evs b : List Nat) :
    leave true (registerAll b (leave false (registerAll evs (enter (registerAll a (enter (st, u))))))) =
      (st, u ++ (a ++ evs ++ b).reverse) := by
  simp only [enter, registerAll_eq, leave_failed, leave_committed, List.nil_append]

/-- **Nesting**: an inner block that fails and is caught inside the outer one undoes its own events only; the outer block goes on
and commits what *it* registered, before and after. -/
theorem inner_failure_caught_then_outer_commit (p : List Nat) (rest : Tx) (u a evs b : List Nat) :
    leave false (registerAll b (leave true (registerAll evs (enter (registerAll a (enter (p :: rest, u))))))) =
      ((p ++ (a ++ b)) :: rest, u ++ evs.reverse) := by
  simp only [enter, registerAll_eq, leave_failed, leave_committed, List.nil_append]

/-- `rollbackFiles` of the hand-written `Model/Txn.lean`, which the theorems of `C07` above are about, removes exactly the
artifacts of the events the translated `rollback` undoes -/
theorem model_rollback (evs files : List Nat) :
    Txn.rollbackFiles evs files = files.filter (fun f => !(rollbackOrder evs).contains f) := by
  simp [Txn.rollbackFiles, rollbackOrder]

/-- non-vacuity / witness of the order: three events, undone 3, 2, 1 -/
example : leave true (registerAll [1, 2, 3] (enter ([[9]], []))) = ([[9]], [3, 2, 1]) := by decide

end C07.Translated
