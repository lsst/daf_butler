import ButlerModel.Model.Join
import ButlerModel.Model.Spatial
import ButlerModel.Lemmas.List
/-! # C06 — queries relate dimensions exactly as the stored records relate them

Three parts: `C06`, the relational part, about `Model/Join.lean`; `C06.Spatial`, the overlap tables, the candidate join and the
post-processing of `Model/Spatial.lean` (its own head says what is proved); `C06.Whole`, the two together.  Geometry is a
parameter (`Geo`), with one assumption (`GeoSound`) that the driver checks on the regions in use. -/
namespace C06
open Join

theorem agreeOnB_iff (cols : List Nat) (a r : Nat → Nat) : agreeOnB cols a r = true ↔ ∀ c ∈ cols, a c = r c := by
  simp [agreeOnB]

theorem mem_join_cols {T1 T2 : Tbl} {c : Nat} : c ∈ (join T1 T2).cols ↔ c ∈ T1.cols ∨ c ∈ T2.cols := by
  simp only [join, List.mem_append, List.mem_filter, List.contains_eq_mem, Bool.not_eq_true', decide_eq_false_iff_not]
  exact ⟨fun h => h.imp_right And.left, fun h => (Decidable.em (c ∈ T1.cols)).elim .inl fun hn => h.imp_right (⟨·, hn⟩)⟩

theorem mem_join_rows {T1 T2 : Tbl} {r : Nat → Nat} : r ∈ (join T1 T2).rows ↔
    ∃ r1 ∈ T1.rows, ∃ r2 ∈ T2.rows, (∀ c ∈ T2.cols, c ∈ T1.cols → r1 c = r2 c) ∧ merge T1.cols r1 r2 = r := by
  simp only [join, List.mem_flatMap, List.mem_map, List.mem_filter, agreeOnB_iff, List.contains_eq_mem, decide_eq_true_eq, and_assoc, and_imp]

theorem agree_merge_iff {c1 c2 : List Nat} {r1 r2 : Nat → Nat} (hc : ∀ c ∈ c2, c ∈ c1 → r1 c = r2 c) (a : Nat → Nat) :
    (∀ c, c ∈ c1 ∨ c ∈ c2 → a c = merge c1 r1 r2 c) ↔ (∀ c ∈ c1, a c = r1 c) ∧ ∀ c ∈ c2, a c = r2 c := by
  constructor
  · refine fun h => ⟨fun c h1 => (h c (.inl h1)).trans (if_pos h1), fun c h2 => (h c (.inr h2)).trans ?_⟩
    by_cases h1 : c ∈ c1
    · exact (if_pos h1).trans (hc c h2 h1)
    · exact if_neg h1
  · rintro ⟨a1, a2⟩ c h
    by_cases h1 : c ∈ c1
    · exact (a1 c h1).trans (if_pos h1).symm
    · exact (a2 c (h.resolve_left h1)).trans (if_neg h1).symm

/-- The natural join is the conjunction of its operands. -/
theorem sat_join (a : Nat → Nat) (T1 T2 : Tbl) : Sat a (join T1 T2) ↔ Sat a T1 ∧ Sat a T2 := by
  simp only [Sat, agreeOnB_iff, mem_join_cols, mem_join_rows]
  constructor
  · rintro ⟨_, ⟨r1, h1, r2, h2, hc, rfl⟩, ha⟩
    have := (agree_merge_iff hc a).mp ha
    exact ⟨⟨r1, h1, this.1⟩, r2, h2, this.2⟩
  · rintro ⟨⟨r1, h1, a1⟩, r2, h2, a2⟩
    have hc : ∀ c ∈ T2.cols, c ∈ T1.cols → r1 c = r2 c := fun c h2 h1 => (a1 c h1).symm.trans (a2 c h2)
    exact ⟨_, ⟨r1, h1, r2, h2, hc, rfl⟩, (agree_merge_iff hc a).mpr ⟨a1, a2⟩⟩

theorem sat_unit (a : Nat → Nat) : Sat a unit := ⟨fun _ => 0, by simp [unit], by simp [agreeOnB, unit]⟩

theorem sat_foldl (a : Nat → Nat) (Ts : List Tbl) (T0 : Tbl) : Sat a (Ts.foldl join T0) ↔ Sat a T0 ∧ ∀ T ∈ Ts, Sat a T := by
  induction Ts generalizing T0 with
  | nil => simp
  | cons T Ts ih => rw [List.foldl_cons, ih, sat_join, List.forall_mem_cons, and_assoc]

/-- **Exactly the consistent combinations**: a valuation is in the result of joining the tables of a
query iff it is consistent with *every* one of them — each dimension's record exists with the given
required and implied values, each always-joined membership table has a matching row, each overlap
relation holds. -/
theorem query_exact (a : Nat → Nat) (Ts : List Tbl) : Sat a (joinAll Ts) ↔ ∀ T ∈ Ts, Sat a T :=
  (sat_foldl a Ts unit).trans (and_iff_right (sat_unit a))

/-- **The order of the joins does not matter** (nor, therefore, the order in which the query builder
visits the elements). -/
theorem join_order_irrelevant (a : Nat → Nat) (Ts Ts' : List Tbl) (h : ∀ T, T ∈ Ts ↔ T ∈ Ts') :
    Sat a (joinAll Ts) ↔ Sat a (joinAll Ts') := by
  simp only [query_exact, h]

/-- Adding a table can only remove combinations. -/
theorem more_tables_fewer_rows (a : Nat → Nat) (Ts : List Tbl) (T : Tbl) (h : Sat a (joinAll (T :: Ts))) : Sat a (joinAll Ts) := by
  rw [query_exact] at h ⊢
  exact fun T' hT' => h T' (List.mem_cons_of_mem _ hT')

example : Sat (fun c => if c = 1 then 7 else 3)
    (joinAll [{ cols := [1], rows := [fun _ => 7] }, { cols := [1, 2], rows := [fun c => if c = 1 then 7 else 3, fun _ => 9] }]) := by
  rw [query_exact]
  intro T hT
  simp only [List.mem_cons, List.not_mem_nil, or_false] at hT
  rcases hT with rfl | rfl
  · exact ⟨fun _ => 7, by simp, by simp [agreeOnB]⟩
  · exact ⟨fun c => if c = 1 then 7 else 3, by simp, by simp [agreeOnB]⟩

end C06

/-! # C06, spatial part — "when two spatial families meet, exactly the pairs whose regions are not
disjoint appear … in whatever order the records were inserted, replaced or synchronised"

Theorems about `Model/Spatial.lean`: the post-processing loop with its threaded limit is a filter
followed by a prefix, whatever the raw page size; every history of insert / skip-existing insert /
replace / sync calls keeps the overlap table a superset of the envelopes of the *stored* regions
(and equal to them: `insertSkip` writes rows only for the records it inserts, unlike `insertSkipOld`);
under the first invariant and the one geometric assumption (two regions that are not disjoint share a
pixel of their envelopes) the query returns exactly the pairs of keys whose stored regions are not
disjoint. -/
namespace C06.Spatial
open _root_.Spatial

def takeLim : Option Nat → List α → List α
  | none, l => l
  | some n, l => l.take n

def restLim : Option Nat → Nat → Option Nat
  | none, _ => none
  | some n, k => some (n - k)

theorem applyPage_spec (keep : α → Bool) : ∀ (l : List α) (lim : Option Nat),
    applyPage keep lim l = (takeLim lim (l.filter keep), restLim lim (takeLim lim (l.filter keep)).length) := by
  intro l lim
  fun_induction applyPage keep lim l with
  | case1 => rfl  -- the limit is used up
  | case2 lim => cases lim <;> simp [takeLim, restLim]  -- the page is at its end
  | case3 x xs out l h ih =>  -- no limit
    cases h.symm.trans ih  -- `out` and `l` are what the induction hypothesis says
    rw [List.filter_cons]
    cases keep x <;> rfl
  | case4 n x xs hk out l h ih =>
    cases h.symm.trans ih
    simp only [List.filter_cons, hk, if_true, takeLim, restLim, List.take_succ_cons, List.length_cons, Nat.succ_eq_add_one,
      Nat.add_sub_add_right]
  | case5 n x xs hk ih => rw [ih, List.filter_cons, if_neg hk]

/-- **Paging with a threaded limit = filter, then prefix.** -/
theorem applyPages_spec (keep : α → Bool) : ∀ (ps : List (List α)) (lim : Option Nat),
    applyPages keep lim ps = takeLim lim (ps.flatten.filter keep) := by
  intro ps lim
  fun_induction applyPages keep lim ps with
  | case1 lim => cases lim <;> simp [takeLim]
  | case2 lim p ps out l h ih =>
    cases h.symm.trans (applyPage_spec keep p lim)
    rw [ih, List.flatten_cons, List.filter_append]
    cases lim with
    | none => rfl
    | some n => exact List.take_append_take_sub _ _ n

/-- Whatever the fuel: when it runs out the rest is one last page. -/
theorem chunks_flatten (n fuel : Nat) (l : List α) : (chunks n fuel l).flatten = l := by
  fun_induction chunks n fuel l with
  | case1 l he | case3 _ l he => exact (List.isEmpty_iff.mp he).symm
  | case2 l | case4 _ l => exact List.flatten_singleton
  | case5 fuel l _ _ ih => rw [List.flatten_cons, ih, List.take_append_drop]

theorem pages_flatten (n : Nat) (l : List α) : (pagesOf n l).flatten = l := chunks_flatten n _ l

/-- **The raw page size is irrelevant**: the query is the filtered candidate list, cut at the limit. -/
theorem query_eq (g : Geo) (e1 e2 : Elem) (n : Nat) (lim : Option Nat) :
    query g e1 e2 n lim = takeLim lim ((candidates e1 e2).filter (exact g e1 e2)) := by
  simp [query, applyPages_spec, pages_flatten]

theorem query_page_size_irrelevant (g : Geo) (e1 e2 : Elem) (n m : Nat) (lim : Option Nat) :
    query g e1 e2 n lim = query g e1 e2 m lim := by rw [query_eq, query_eq]

theorem query_limit_prefix (g : Geo) (e1 e2 : Elem) (n L : Nat) :
    query g e1 e2 n (some L) = (query g e1 e2 n none).take L := by simp [query_eq, takeLim]

/-- reading a materialised join back gives what the direct query gives -/
theorem materialize_read_back (g : Geo) (e1 e2 : Elem) (n m : Nat) (lim : Option Nat) :
    readBack g e1 e2 (materialize e1 e2) n lim = query g e1 e2 m lim := by
  simp [readBack, materialize, query_eq, applyPages_spec, pages_flatten]

/-! ## the overlap table under every history of record operations -/

def Uniq (e : Elem) : Prop := e.recs.Pairwise (fun a b => a.1 ≠ b.1)

/-- every pixel of the envelope of a *stored* region has its row -/
def Sound (g : Geo) (e : Elem) : Prop := ∀ k r, (k, some r) ∈ e.recs → ∀ t ∈ g.env r, (k, t) ∈ e.ov

/-- … and there are no other rows -/
def Exact (g : Geo) (e : Elem) : Prop := ∀ k t, (k, t) ∈ e.ov → ∃ r, (k, some r) ∈ e.recs ∧ t ∈ g.env r

def Inv (g : Geo) (e : Elem) : Prop := Uniq e ∧ Sound g e

theorem hasKey_iff (e : Elem) (k : Nat) : hasKey e k = true ↔ ∃ r, (k, r) ∈ e.recs := List.any_fst_beq_iff

theorem mem_rowsOf (g : Geo) (b : Rec) (k t : Nat) : (k, t) ∈ rowsOf g b ↔ ∃ r, b = (k, some r) ∧ t ∈ g.env r := by
  fun_cases rowsOf g b with
  | case1 k' => simp
  | case2 k' r =>
    simp only [List.mem_map, Prod.mk.injEq, Option.some.injEq]
    constructor
    · rintro ⟨t', ht, rfl, rfl⟩; exact ⟨r, ⟨rfl, rfl⟩, ht⟩
    · rintro ⟨r2, ⟨rfl, rfl⟩, ht⟩; exact ⟨t, ht, rfl, rfl⟩

theorem mem_insertRows (g : Geo) (batch : List Rec) (k t : Nat) :
    (k, t) ∈ insertRows g batch ↔ ∃ r, (k, some r) ∈ batch ∧ t ∈ g.env r := by
  simp only [insertRows, List.mem_flatMap, mem_rowsOf]
  constructor
  · rintro ⟨b, hb, r, rfl, ht⟩; exact ⟨r, hb, ht⟩
  · rintro ⟨r, hb, ht⟩; exact ⟨_, hb, r, rfl, ht⟩

theorem distinctKeys_iff (b : List Rec) : distinctKeys b = true ↔ b.Pairwise (fun a b => a.1 ≠ b.1) := by
  induction b with
  | nil => simp [distinctKeys]
  | cons x xs ih =>
    simp only [distinctKeys, Bool.and_eq_true, Bool.not_eq_true', List.any_eq_false, beq_iff_eq, List.pairwise_cons, ih, ne_eq,
      eq_comm (a := x.1)]

/-- what an operation must look like for the model to speak about it: batches written with
`skip_existing` or `replace` name each key once (the harness never sends others) -/
def WFOp : Op → Prop
  | .insert _ => True
  | .insertSkip batch => distinctKeys batch = true
  | .replace batch => distinctKeys batch = true
  | .sync _ _ => True

/-- What every record operation does to an element: the records and overlap rows of the keys in `del`
go, the batch `new` comes with its rows. -/
def upd (g : Geo) (e : Elem) (del : Nat → Bool) (new : List Rec) : Elem :=
  { recs := e.recs.filter (fun r => !del r.1) ++ new, ov := e.ov.filter (fun row => !del row.1) ++ insertRows g new }

theorem upd_nothing (g : Geo) (e : Elem) (new : List Rec) :
    upd g e (fun _ => false) new = { recs := e.recs ++ new, ov := e.ov ++ insertRows g new } := by
  simp [upd]

theorem upd_sound {g : Geo} {e : Elem} (del : Nat → Bool) (new : List Rec) (h : Sound g e) : Sound g (upd g e del new) := by
  intro k r hm t ht
  simp only [upd, List.mem_append, List.mem_filter] at hm ⊢
  exact hm.imp (fun hm => ⟨h k r hm.1 t ht, hm.2⟩) (fun hm => (mem_insertRows g new k t).mpr ⟨r, hm, ht⟩)

theorem upd_exact {g : Geo} {e : Elem} (del : Nat → Bool) (new : List Rec) (h : Exact g e) : Exact g (upd g e del new) := by
  intro k t hm
  simp only [upd, List.mem_append, List.mem_filter] at hm ⊢
  rcases hm with ⟨hm, hk⟩ | hm
  · obtain ⟨r, hr, ht⟩ := h k t hm
    exact ⟨r, Or.inl ⟨hr, hk⟩, ht⟩
  · obtain ⟨r, hr, ht⟩ := (mem_insertRows g new k t).mp hm
    exact ⟨r, Or.inr hr, ht⟩

/-- the batch names each key once, and a key that is already stored is among the deleted ones -/
def Fresh (e : Elem) (del : Nat → Bool) (new : List Rec) : Prop :=
  new.Pairwise (fun a b => a.1 ≠ b.1) ∧ ∀ a ∈ e.recs, ∀ b ∈ new, a.1 = b.1 → del a.1 = true

theorem upd_uniq {e : Elem} {del : Nat → Bool} {new : List Rec} (g : Geo) (hf : Fresh e del new) (h : Uniq e) :
    Uniq (upd g e del new) := by
  simp only [Uniq, upd, List.pairwise_append, List.mem_filter]
  exact ⟨h.filter _, hf.1, fun a ha b hb heq => by simp [hf.2 a ha.1 b hb heq] at ha⟩

theorem lookup_eq_none_iff (e : Elem) (k : Nat) : lookup e k = none ↔ ∀ r, (k, r) ∉ e.recs := by
  simp only [lookup, Option.map_eq_none_iff, List.find?_eq_none, beq_iff_eq, Prod.forall]
  exact ⟨fun h r hm => h k r hm rfl, fun h k' r hm hk => h r (hk ▸ hm)⟩

theorem lookup_some {e : Elem} {k : Nat} {r : Option Nat} (h : lookup e k = some r) : (k, r) ∈ e.recs := by
  simp only [lookup, Option.map_eq_some_iff] at h
  obtain ⟨x, hf, rfl⟩ := h
  exact List.mem_of_find?_fst hf

theorem lookup_of_mem {e : Elem} (hu : Uniq e) {k : Nat} {r : Option Nat} (hm : (k, r) ∈ e.recs) : lookup e k = some r := by
  simp [lookup, List.find?_fst_of_mem hu hm]

theorem fresh_replace (e : Elem) (batch : List Rec) (hd : distinctKeys batch = true) : Fresh e (keysOf batch).contains batch :=
  ⟨(distinctKeys_iff batch).mp hd, fun _ _ b hb heq => List.contains_iff_mem.mpr (List.mem_map.mpr ⟨b, hb, heq.symm⟩)⟩

theorem fresh_of_new {e : Elem} {new : List Rec} (hp : new.Pairwise (fun a b => a.1 ≠ b.1))
    (hn : ∀ b ∈ new, ∀ r, (b.1, r) ∉ e.recs) : Fresh e (fun _ => false) new :=
  ⟨hp, fun a ha b hb heq => absurd (heq ▸ ha : (b.1, a.2) ∈ e.recs) (hn b hb a.2)⟩

/-- **Every operation is such an update** (or leaves the element alone), and a well-formed one brings
a batch that is fresh for it: `insert` refuses stored keys, `skip_existing` drops them, `replace` and an
updating `sync` delete them first. -/
theorem apply_shape (g : Geo) (e : Elem) (op : Op) :
    apply g e op = e ∨ ∃ del new, apply g e op = upd g e del new ∧ (WFOp op → Fresh e del new) := by
  cases op with
  | insert batch =>
    simp only [apply, Spatial.insert]
    cases hc : batch.any (fun b => hasKey e b.1) || !distinctKeys batch
    · simp only [Bool.or_eq_false_iff, Bool.not_eq_false', List.any_eq_false, hasKey_iff, not_exists] at hc
      exact Or.inr ⟨_, batch, (upd_nothing g e batch).symm, fun _ => fresh_of_new ((distinctKeys_iff batch).mp hc.2) hc.1⟩
    · exact Or.inl rfl
  | insertSkip batch =>
    exact Or.inr ⟨_, _, (upd_nothing g e _).symm, fun hw => fresh_of_new (((distinctKeys_iff batch).mp hw).filter _)
      fun b hb r hr => by simp [(hasKey_iff e b.1).mpr ⟨r, hr⟩] at hb⟩
  | replace batch =>
    simp only [apply]
    cases hd : distinctKeys batch
    · exact Or.inl rfl
    · exact Or.inr ⟨_, batch, rfl, fun _ => fresh_replace e batch hd⟩
  | sync b u =>
    simp only [apply]
    fun_cases sync g e b u with
    | case1 hl =>  -- a new key
      exact Or.inr ⟨_, [b], by simp [upd_nothing, insertRows], fun _ => fresh_of_new (List.pairwise_singleton _ _)
        fun c hc => List.mem_singleton.mp hc ▸ (lookup_eq_none_iff e b.1).mp hl⟩
    | case2 | case4 => exact Or.inl rfl  -- the same record again, or a different one refused
    | case3 => exact Or.inr ⟨_, [b], rfl, fun _ => fresh_replace e [b] rfl⟩

theorem apply_inv (g : Geo) (e : Elem) (op : Op) (hw : WFOp op) (hi : Inv g e) : Inv g (apply g e op) := by
  rcases apply_shape g e op with h | ⟨del, new, h, hf⟩
  · exact h.symm ▸ hi
  · exact h.symm ▸ ⟨upd_uniq g (hf hw) hi.1, upd_sound del new hi.2⟩

theorem apply_exact (g : Geo) (e : Elem) (op : Op) (hx : Exact g e) : Exact g (apply g e op) := by
  rcases apply_shape g e op with h | ⟨del, new, h, _⟩
  · exact h.symm ▸ hx
  · exact h.symm ▸ upd_exact del new hx

theorem inv_empty (g : Geo) : Inv g {} := ⟨List.Pairwise.nil, fun _ _ h => by simp at h⟩

/-- **Every history keeps the overlap table sound**: whatever sequence of (accepted or refused)
insert / skip-existing / replace / sync calls was made, each pixel of the envelope of every stored
region has its row. -/
theorem run_inv (g : Geo) : ∀ (ops : List Op) (e : Elem), (∀ op ∈ ops, WFOp op) → Inv g e → Inv g (run g e ops) :=
  fun ops _ hw hi => List.foldlRecOn ops (apply g) hi fun e he op hop => apply_inv g e op (hw op hop) he

theorem mem_candidates (e1 e2 : Elem) (k1 k2 : Nat) :
    (k1, k2) ∈ candidates e1 e2 ↔ ∃ t, (k1, t) ∈ e1.ov ∧ (k2, t) ∈ e2.ov := by
  simp only [candidates, List.mem_eraseDups, List.mem_flatMap, List.mem_map, List.mem_filter, beq_iff_eq, Prod.mk.injEq]
  constructor
  · rintro ⟨⟨a, t⟩, h1, ⟨b, t'⟩, ⟨h2, ht⟩, rfl, rfl⟩
    obtain rfl : t' = t := ht
    exact ⟨t', h1, h2⟩
  · rintro ⟨t, h1, h2⟩
    exact ⟨(k1, t), h1, (k2, t), ⟨h2, rfl⟩, rfl, rfl⟩

theorem exact_iff (g : Geo) (e1 e2 : Elem) (h1 : Uniq e1) (h2 : Uniq e2) (p : Nat × Nat) :
    exact g e1 e2 p = true ↔ ∃ r1 r2, (p.1, some r1) ∈ e1.recs ∧ (p.2, some r2) ∈ e2.recs ∧ g.ovl r1 r2 = true := by
  constructor
  · unfold exact
    fun_cases exact? g e1 e2 p with
    | case1 r1 r2 l2 l1 => exact fun h => ⟨r1, r2, lookup_some l1, lookup_some l2, h⟩
    | case2 => nofun
  · rintro ⟨r1, r2, m1, m2, ho⟩
    simp [exact, exact?, lookup_of_mem h1 m1, lookup_of_mem h2 m2, ho]

/-- the one assumption about geometry: regions that are not disjoint share a pixel of their envelopes
(the envelope of a region contains every pixel the region touches) -/
def GeoSound (g : Geo) : Prop := ∀ r r', g.ovl r r' = true → ∃ t, t ∈ g.env r ∧ t ∈ g.env r'

/-- **Exactly the pairs whose stored regions are not disjoint**, for any overlap tables that are sound
for the stored records — extra rows (such as `insertSkipOld` left) do not matter, the raw page size does
not matter. -/
theorem query_exact_pairs (g : Geo) (hg : GeoSound g) (e1 e2 : Elem) (i1 : Inv g e1) (i2 : Inv g e2) (n : Nat) (p : Nat × Nat) :
    p ∈ query g e1 e2 n none ↔ ∃ r1 r2, (p.1, some r1) ∈ e1.recs ∧ (p.2, some r2) ∈ e2.recs ∧ g.ovl r1 r2 = true := by
  rw [query_eq]
  simp only [takeLim, List.mem_filter, exact_iff g e1 e2 i1.1 i2.1]
  constructor
  · exact fun h => h.2
  · rintro ⟨r1, r2, m1, m2, ho⟩
    refine ⟨?_, r1, r2, m1, m2, ho⟩
    obtain ⟨t, t1, t2⟩ := hg r1 r2 ho
    obtain ⟨k1, k2⟩ := p
    exact (mem_candidates e1 e2 k1 k2).mpr ⟨t, i1.2 k1 r1 m1 t t1, i2.2 k2 r2 m2 t t2⟩

/-- **Whatever the histories**: after any two histories of record operations, from empty tables, the
query returns exactly the pairs of keys whose *final* regions are not disjoint. -/
theorem history_query_exact (g : Geo) (hg : GeoSound g) (ops1 ops2 : List Op)
    (w1 : ∀ op ∈ ops1, WFOp op) (w2 : ∀ op ∈ ops2, WFOp op) (n : Nat) (p : Nat × Nat) :
    p ∈ query g (run g {} ops1) (run g {} ops2) n none ↔
      ∃ r1 r2, (p.1, some r1) ∈ (run g {} ops1).recs ∧ (p.2, some r2) ∈ (run g {} ops2).recs ∧ g.ovl r1 r2 = true :=
  query_exact_pairs g hg _ _ (run_inv g ops1 {} w1 (inv_empty g)) (run_inv g ops2 {} w2 (inv_empty g)) n p

/-- **Insertion order and route are irrelevant**: histories that end with the same records give the
same answer. -/
theorem same_records_same_answer (g : Geo) (hg : GeoSound g) (a1 a2 b1 b2 : List Op)
    (wa1 : ∀ op ∈ a1, WFOp op) (wa2 : ∀ op ∈ a2, WFOp op) (wb1 : ∀ op ∈ b1, WFOp op) (wb2 : ∀ op ∈ b2, WFOp op)
    (h1 : ∀ x, x ∈ (run g {} a1).recs ↔ x ∈ (run g {} b1).recs) (h2 : ∀ x, x ∈ (run g {} a2).recs ↔ x ∈ (run g {} b2).recs)
    (n m : Nat) (p : Nat × Nat) :
    p ∈ query g (run g {} a1) (run g {} a2) n none ↔ p ∈ query g (run g {} b1) (run g {} b2) m none := by
  rw [history_query_exact g hg a1 a2 wa1 wa2, history_query_exact g hg b1 b2 wb1 wb2]
  simp only [h1, h2]

theorem query_limit_sound (g : Geo) (hg : GeoSound g) (e1 e2 : Elem) (i1 : Inv g e1) (i2 : Inv g e2) (n L : Nat) (p : Nat × Nat)
    (hp : p ∈ query g e1 e2 n (some L)) :
    ∃ r1 r2, (p.1, some r1) ∈ e1.recs ∧ (p.2, some r2) ∈ e2.recs ∧ g.ovl r1 r2 = true := by
  rw [query_limit_prefix] at hp
  exact (query_exact_pairs g hg e1 e2 i1 i2 n p).mp (List.mem_of_mem_take hp)

theorem query_limit_length (g : Geo) (e1 e2 : Elem) (n L : Nat) :
    (query g e1 e2 n (some L)).length = min L (query g e1 e2 n none).length := by
  rw [query_limit_prefix, List.length_take]

/-! ## exactness of the overlap table, and how `skip_existing` as it was given lost it -/

theorem exact_empty (g : Geo) : Exact g {} := fun _ _ h => by simp at h

/-- **Every history keeps the overlap table exact**: its rows are the envelopes of the stored regions
and nothing else. -/
theorem run_exact (g : Geo) : ∀ (ops : List Op) (e : Elem), Exact g e → Exact g (run g e ops) :=
  fun ops _ hx => List.foldlRecOn ops (apply g) hx fun e he op _ => apply_exact g e op he

/-- **Post-processing never meets a NULL region**: with exact overlap tables every candidate row has
both regions, so `m[a].overlaps(m[b])` can be evaluated on every row the SQL part delivers. -/
theorem no_candidate_without_region (g : Geo) (e1 e2 : Elem) (u1 : Uniq e1) (u2 : Uniq e2) (x1 : Exact g e1) (x2 : Exact g e2) :
    raises g e1 e2 = false := by
  simp only [raises, List.any_eq_false]
  rintro ⟨k1, k2⟩ hc hn
  obtain ⟨t, h1, h2⟩ := (mem_candidates e1 e2 k1 k2).mp hc
  obtain ⟨r1, m1, _⟩ := x1 k1 t h1
  obtain ⟨r2, m2, _⟩ := x2 k2 t h2
  simp [exact?, lookup_of_mem u1 m1, lookup_of_mem u2 m2] at hn

theorem history_never_raises (g : Geo) (ops1 ops2 : List Op) (w1 : ∀ op ∈ ops1, WFOp op) (w2 : ∀ op ∈ ops2, WFOp op) :
    raises g (run g {} ops1) (run g {} ops2) = false :=
  no_candidate_without_region g _ _ (run_inv g ops1 {} w1 (inv_empty g)).1 (run_inv g ops2 {} w2 (inv_empty g)).1
    (run_exact g ops1 {} (exact_empty g)) (run_exact g ops2 {} (exact_empty g))

def demoGeo : Geo := { env := fun r => if r = 1 then [10, 11] else if r = 2 then [11, 12] else [20], ovl := fun a b => (a == b) || (a + b == 3) }

/-- Finding C06-a, the code as it was given: `skip_existing` over an existing record with a NULL
region kept the NULL and *added* the offered region's rows; the next spatial join then delivered a
candidate without region to the post-processing, which raised. -/
theorem old_skip_existing_made_queries_raise :
    let e1 := insertSkipOld demoGeo (run demoGeo {} [.insert [(1, none)]]) [(1, some 1)]
    let e2 := run demoGeo {} [.insert [(7, some 1)]]
    e1.recs = [(1, none)] ∧ (1, 10) ∈ e1.ov ∧ ¬ Exact demoGeo e1 ∧ raises demoGeo e1 e2 = true := by
  refine ⟨by decide, by decide, fun h => ?_, by decide⟩
  obtain ⟨r, hr, _⟩ := h 1 10 (by decide)
  have : (1, some r) ∈ [((1 : Nat), (none : Option Nat))] := hr
  simp at this

/-- non-vacuity: a history whose final tables give a non-trivial answer -/
example :
    let e1 := run demoGeo {} [.insert [(1, none), (2, some 1)], .sync (1, some 3) true, .replace [(2, some 2)]]
    let e2 := run demoGeo {} [.insertSkip [(7, some 1), (8, some 3)], .sync (9, none) false]
    query demoGeo e1 e2 1 none = [(1, 8), (2, 7)] := by decide

end C06.Spatial

/-! ## the whole query: dimension tables, membership tables and the overlap relation together -/
namespace C06.Whole
open Join _root_.Spatial C06 C06.Spatial

/-- the overlap relation as one more table of the join, over the key columns of the two elements -/
def overlapTbl (c1 c2 : Nat) (pairs : List (Nat × Nat)) : Tbl :=
  { cols := [c1, c2], rows := pairs.map fun p => fun c => if c = c1 then p.1 else p.2 }

theorem sat_overlapTbl (c1 c2 : Nat) (hne : c1 ≠ c2) (pairs : List (Nat × Nat)) (a : Nat → Nat) :
    Sat a (overlapTbl c1 c2 pairs) ↔ (a c1, a c2) ∈ pairs := by
  simp only [Sat, overlapTbl, List.mem_map, agreeOnB_iff, List.mem_cons, List.not_mem_nil, or_false, forall_eq_or_imp, forall_eq]
  constructor
  · rintro ⟨_, ⟨p, hp, rfl⟩, h1, h2⟩
    rw [h1, h2]
    simp only [if_pos, if_neg hne.symm]
    exact hp
  · exact fun h => ⟨_, ⟨_, h, rfl⟩, (if_pos rfl).symm, (if_neg hne.symm).symm⟩

/-- **The property, whole**: after any histories of record operations on the two spatial elements, a
combination of dimension values is returned by the query — the natural join of the dimension and
membership tables `Ts` with the post-processed common-skypix overlap of the two elements — exactly
when it is consistent with every one of those tables *and* the stored regions of the two elements'
records are not disjoint.  Raw page size and table order are irrelevant. -/
theorem whole_query_exact (g : Geo) (hg : GeoSound g) (ops1 ops2 : List Op)
    (w1 : ∀ op ∈ ops1, WFOp op) (w2 : ∀ op ∈ ops2, WFOp op) (n : Nat) (c1 c2 : Nat) (hne : c1 ≠ c2) (Ts : List Tbl) (a : Nat → Nat) :
    Sat a (joinAll (overlapTbl c1 c2 (query g (run g {} ops1) (run g {} ops2) n none) :: Ts)) ↔
      (∃ r1 r2, (a c1, some r1) ∈ (run g {} ops1).recs ∧ (a c2, some r2) ∈ (run g {} ops2).recs ∧ g.ovl r1 r2 = true) ∧ ∀ T ∈ Ts, Sat a T := by
  rw [query_exact]
  simp only [List.mem_cons, forall_eq_or_imp, sat_overlapTbl c1 c2 hne]
  rw [history_query_exact g hg ops1 ops2 w1 w2 n (a c1, a c2)]

end C06.Whole
