import ButlerModel.Model.Universe
import ButlerModel.Gen.Universe
import ButlerModel.Lemmas.List
/-! # C12 — dimension groups are dependency-closed sets obeying lattice laws

`DimensionGroup` (`dimensions/_group.py`) as modelled in `Model/Universe.lean`: the closure computed by the constructor,
`|` and `&`, `required`/`implied`, `lookup_order`, the comparisons.  All theorems are proved for **every** well-formed
universe (`WF U`, a decidable check) and every set of names; the shipped universes (extracted from the live objects on
every run into `Gen/Universe.lean`) are instances by kernel evaluation.  Not proved: that the `while` loop of
`lookup_order` terminates; the model gives it fuel, and what is proved of `lookupOrder` holds whatever the loop reached. -/
namespace C12
open Dim

def WF (U : Universe) : Prop := wfB U = true

theorem deps_nil_of_ge {U : Universe} {k : Nat} (h : U.length ≤ k) : deps U k = [] := by
  simp [deps, elemAt, List.getD_eq_getElem?_getD, List.getElem?_eq_none h]

/-- all that is used of `WF` below: dependencies point downwards (that they are dimensions, and `req ∩ imp = ∅`, is not) -/
theorem dep_lt {U : Universe} (h : WF U) {k j : Nat} (hj : j ∈ deps U k) : j < k := by
  by_cases hk : k < U.length
  · have := List.all_eq_true.mp h k (List.mem_range.mpr hk)
    simp only [Bool.and_eq_true, List.all_eq_true, decide_eq_true_eq] at this
    exact (this.1 j hj).1
  · rw [deps_nil_of_ge (by omega)] at hj; cases hj

theorem ofList_eq_true {s : List Nat} {i : Nat} : ofList s i = true ↔ i ∈ s := by simp [ofList]

theorem closed_ofList {U : Universe} {g : List Nat} :
    Closed U (ofList g) ↔ ∀ k ∈ g, ∀ j ∈ deps U k, j ∈ g := by
  simp only [Closed, ofList_eq_true]

/-! ## the sweep computes the least closed superset -/

theorem sweep_extensive (U : Universe) (k : Nat) (m : NSet) (i : Nat) (h : m i = true) : sweep U k m i = true := by
  fun_induction sweep U k m with
  | case1 => exact h
  | case2 k m ih =>
    apply ih
    split
    · simp [h]
    · exact h

theorem sweep_least (U : Universe) (c : NSet) (hc : Closed U c) (k : Nat) (m : NSet)
    (hm : ∀ i, m i = true → c i = true) (i : Nat) (h : sweep U k m i = true) : c i = true := by
  fun_induction sweep U k m with
  | case1 => exact hm i h
  | case2 k m ih =>
    refine ih (fun j hj => ?_) h
    by_cases hk : m k = true
    · rw [if_pos hk] at hj
      simp only [Bool.or_eq_true, List.contains_eq_mem, decide_eq_true_eq] at hj
      exact hj.elim (hm j) (hc k (hm k hk) j)
    · rw [if_neg hk] at hj
      exact hm j hj

/-- The invariant of the downward sweep: a set closed at every index from `k` up is closed everywhere once the indices
below `k` have had their turn (dependencies point downwards, so a turn never disturbs the indices above it). -/
theorem sweep_closed (U : Universe) (h : WF U) (k : Nat) (m : NSet)
    (hm : ∀ i, k ≤ i → m i = true → ∀ j ∈ deps U i, m j = true) : Closed U (sweep U k m) := by
  fun_induction sweep U k m with
  | case1 => exact fun i hi => hm i (Nat.zero_le i) hi
  | case2 k m ih =>
    refine ih fun i hki hi j hj => ?_
    by_cases hk : m k = true
    · rw [if_pos hk] at hi ⊢
      by_cases hik : i = k
      · simp [← hik, hj]
      · have : i ∉ deps U k := fun hc => by have := dep_lt h hc; omega
        simp only [Bool.or_eq_true, List.contains_eq_mem, decide_eq_true_eq, this, or_false] at hi
        simp [hm i (by omega) hi j hj]
    · rw [if_neg hk] at hi ⊢
      exact hm i (Nat.lt_of_le_of_ne hki fun hik => hk (hik ▸ hi)) hi j hj

/-- The group contains every name it was built from. -/
theorem close_extensive (U : Universe) (m : NSet) (i : Nat) (h : m i = true) : closeFn U m i = true :=
  sweep_extensive U _ m i h

/-- The group is closed under required and implied dependencies. -/
theorem close_closed (U : Universe) (h : WF U) (m : NSet) : Closed U (closeFn U m) :=
  sweep_closed U h U.length m fun i hi _ j hj => by rw [deps_nil_of_ge hi] at hj; cases hj

/-- …and it is the *smallest* closed superset. -/
theorem close_least (U : Universe) (m c : NSet) (hc : Closed U c) (hm : ∀ i, m i = true → c i = true) :
    ∀ i, closeFn U m i = true → c i = true :=
  sweep_least U c hc _ m hm

/-- The closure is the only closed set between `m` and `closeFn U m`: every equation between closures below
is an instance. -/
theorem close_eq {U : Universe} {m c : NSet} (hc : Closed U c) (hm : ∀ i, m i = true → c i = true)
    (hcm : ∀ i, c i = true → closeFn U m i = true) (i : Nat) : closeFn U m i = c i :=
  Bool.eq_iff_iff.mpr ⟨close_least U m c hc hm i, hcm i⟩

theorem close_of_closed (U : Universe) (m : NSet) (hc : Closed U m) (i : Nat) : closeFn U m i = m i :=
  close_eq hc (fun _ h => h) (close_extensive U m) i

theorem close_idempotent (U : Universe) (h : WF U) (m : NSet) (i : Nat) :
    closeFn U (closeFn U m) i = closeFn U m i :=
  close_of_closed U _ (close_closed U h m) i

theorem close_mono (U : Universe) (h : WF U) (m m' : NSet) (hm : ∀ i, m i = true → m' i = true) :
    ∀ i, closeFn U m i = true → closeFn U m' i = true :=
  close_least U m _ (close_closed U h m') (fun i hi => close_extensive U m' i (hm i hi))

/-- However the names are spelled (order, duplicates — anything with the same members), the
group is the same object (the same sorted name tuple). -/
theorem close_spelling_irrelevant (U : Universe) (s s' : List Nat) (h : ∀ i, i ∈ s ↔ i ∈ s') :
    close U s = close U s' := by
  have : ofList s = ofList s' := funext fun i => by rw [Bool.eq_iff_iff, ofList_eq_true, ofList_eq_true, h]
  unfold close
  rw [this]

/-- Adding names that the group already contains (e.g. implied ones) changes nothing. -/
theorem close_absorbs (U : Universe) (h : WF U) (m m' : NSet)
    (h1 : ∀ i, m i = true → m' i = true) (h2 : ∀ i, m' i = true → closeFn U m i = true) (i : Nat) :
    closeFn U m' i = closeFn U m i :=
  close_eq (close_closed U h m) h2 (close_mono U h m m' h1) i

theorem toList_mem (U : Universe) (m : NSet) (i : Nat) : i ∈ toList U m ↔ (i < U.length ∧ m i = true) := by
  simp [toList]

/-- `names` is sorted in universe order… -/
theorem names_sorted (U : Universe) (s : List Nat) : (close U s).Pairwise (· < ·) := by
  unfold close toList
  exact List.Pairwise.filter _ List.pairwise_lt_range

/-- …and universe order is topological: every dependency of a member is a member and comes first. -/
theorem names_topological (U : Universe) (h : WF U) (s : List Nat) (d : Nat) (hd : d ∈ close U s) :
    ∀ j ∈ deps U d, j ∈ close U s ∧ j < d := by
  intro j hj
  have hlt := dep_lt h hj
  unfold close at hd ⊢
  rw [toList_mem] at hd ⊢
  exact ⟨⟨by omega, close_closed U h _ d hd.2 j hj⟩, hlt⟩

/-! ## lattice laws (on characteristic functions; `union`/`intersection` close the raw set) -/

def union (U : Universe) (a b : NSet) : NSet := closeFn U (fun i => a i || b i)
def inter (U : Universe) (a b : NSet) : NSet := closeFn U (fun i => a i && b i)

theorem union_upper (U : Universe) (a b : NSet) (i : Nat) :
    (a i = true → union U a b i = true) ∧ (b i = true → union U a b i = true) :=
  ⟨fun h => close_extensive U _ i (by simp [h]), fun h => close_extensive U _ i (by simp [h])⟩

theorem union_lub (U : Universe) (a b c : NSet) (hc : Closed U c)
    (ha : ∀ i, a i = true → c i = true) (hb : ∀ i, b i = true → c i = true) :
    ∀ i, union U a b i = true → c i = true :=
  close_least U _ c hc fun i hi => (Bool.or_eq_true_iff.mp hi).elim (ha i) (hb i)

/-- For closed operands the raw union is already closed: `a | b` has exactly the names of both. -/
theorem union_of_closed (U : Universe) (a b : NSet) (ha : Closed U a) (hb : Closed U b) (i : Nat) :
    union U a b i = (a i || b i) := by
  apply close_of_closed
  intro k hk j hj
  simp only [Bool.or_eq_true] at hk ⊢
  exact hk.imp (fun hk => ha k hk j hj) (fun hk => hb k hk j hj)

/-- Closure adds nothing to an intersection of closed sets: `a & b` is exactly the common names… -/
theorem inter_of_closed (U : Universe) (a b : NSet) (ha : Closed U a) (hb : Closed U b) (i : Nat) :
    inter U a b i = (a i && b i) := by
  apply close_of_closed
  intro k hk j hj
  simp only [Bool.and_eq_true] at hk ⊢
  exact ⟨ha k hk.1 j hj, hb k hk.2 j hj⟩

/-- …hence the greatest lower bound. -/
theorem inter_glb (U : Universe) (a b c : NSet) (ha : Closed U a) (hb : Closed U b)
    (hca : ∀ i, c i = true → a i = true) (hcb : ∀ i, c i = true → b i = true) :
    ∀ i, c i = true → inter U a b i = true := by
  intro i hi
  rw [inter_of_closed U a b ha hb]
  simp [hca i hi, hcb i hi]

theorem inter_lower (U : Universe) (a b : NSet) (ha : Closed U a) (hb : Closed U b) (i : Nat)
    (h : inter U a b i = true) : a i = true ∧ b i = true := by
  rw [inter_of_closed U a b ha hb] at h
  simpa using h

/-! ## required / implied -/

theorem required_char (U : Universe) (g : List Nat) (d : Nat) :
    d ∈ required U g ↔ (d ∈ g ∧ ¬ ∃ d' ∈ g, d ∈ (elemAt U d').imp) := by
  simp [required]

theorem implied_char (U : Universe) (g : List Nat) (d : Nat) :
    d ∈ implied U g ↔ (d ∈ g ∧ ∃ d' ∈ g, d ∈ (elemAt U d').imp) := by
  simp [implied]

theorem req_impl_partition (U : Universe) (g : List Nat) (d : Nat) :
    (d ∈ g ↔ (d ∈ required U g ∨ d ∈ implied U g)) ∧ ¬ (d ∈ required U g ∧ d ∈ implied U g) := by
  rw [required_char, implied_char]
  by_cases h : ∃ d' ∈ g, d ∈ (elemAt U d').imp <;> simp [h]

/-- A group can be rebuilt from its required dimensions: their closure is the whole group. -/
theorem close_required_eq (U : Universe) (h : WF U) (g : List Nat)
    (hg : Closed U (ofList g)) (hlt : ∀ d ∈ g, d < U.length) (i : Nat) :
    closeFn U (ofList (required U g)) i = ofList g i := by
  refine close_eq hg (fun j hj => ?_) (fun d hd => ?_) i
  · rw [ofList_eq_true] at hj ⊢
    exact ((required_char U g j).mp hj).1
  -- a member that is not required is implied by a member further up, which is in the closure by induction
  · rw [ofList_eq_true] at hd
    induction hn : U.length - d using Nat.strongRecOn generalizing d with
    | ind n ih =>
      rcases (req_impl_partition U g d).1.mp hd with hr | hi
      · exact close_extensive U _ d (ofList_eq_true.mpr hr)
      · obtain ⟨_, d', hd', himp⟩ := (implied_char U g d).mp hi
        have hdep : d ∈ deps U d' := List.mem_append_right _ himp
        have := dep_lt h hdep
        have := hlt d' hd'
        exact close_closed U h _ d' (ih (U.length - d') (by omega) d' hd' rfl) d hdep

/-- `required` is a function of the names (a congruence, nothing more). -/
theorem hash_key_determined (U : Universe) (g g' : List Nat) (h : g = g') : required U g = required U g' :=
  congrArg (required U) h

/-! ## the constructor's worklist: whatever the pop order, the result is the closure -/

theorem mem_iff_close {U : Universe} {s names : List Nat} (h1 : ∀ i ∈ s, i ∈ names)
    (h2 : ∀ i ∈ names, closeFn U (ofList s) i = true) (h3 : ∀ k ∈ names, ∀ j ∈ deps U k, j ∈ names) (i : Nat) :
    i ∈ names ↔ closeFn U (ofList s) i = true := by
  rw [close_eq (m := ofList s) (c := ofList names) (closed_ofList.mpr h3) (by simpa [ofList_eq_true] using h1)
    (by simpa [ofList_eq_true] using h2) i, ofList_eq_true]

/-- one pop: pending ∪ done grows by exactly the dependencies of the popped name -/
theorem mem_pop {U : Universe} {te names : List Nat} {d : Nat} (hd : d ∈ te) {i : Nat} :
    i ∈ (te ++ deps U d).filter (fun x => !(d :: names).contains x) ++ d :: names ↔
      i ∈ te ++ names ∨ i ∈ deps U d := by
  rw [List.mem_append, List.mem_append]
  by_cases hin : i ∈ d :: names
  · simp only [hin, or_true, true_iff]
    rcases List.mem_cons.mp hin with h | h
    · exact Or.inl (Or.inl (h ▸ hd))
    · exact Or.inl (Or.inr h)
  · simp only [List.mem_cons, not_or] at hin
    simp [hin.1, hin.2]

/-- Invariant: pending ++ done lies between the seed and its closure and holds the dependencies of everything done.
When nothing is pending, done is a closed set between the two, hence the closure (`mem_iff_close`). -/
theorem worklist_eq_close (U : Universe) (h : WF U) (choose : List Nat → Nat)
    (hch : ∀ te, te ≠ [] → choose te ∈ te) (s : List Nat) (fuel : Nat) (te names r : List Nat)
    (h1 : ∀ i ∈ s, i ∈ te ++ names) (h2 : ∀ i ∈ te ++ names, closeFn U (ofList s) i = true)
    (h3 : ∀ k ∈ names, ∀ j ∈ deps U k, j ∈ te ++ names) (hw : worklist U choose fuel (te, names) = some r) (i : Nat) :
    i ∈ r ↔ closeFn U (ofList s) i = true := by
  induction fuel generalizing te names with
  | zero =>
    cases te with
    | cons => cases hw
    | nil => cases hw; exact mem_iff_close h1 h2 h3 i
  | succ n ih =>
    cases te with
    | nil => cases hw; exact mem_iff_close h1 h2 h3 i
    | cons t ts =>
      have hd := hch (t :: ts) (List.cons_ne_nil t ts)
      refine ih _ _ ?_ ?_ ?_ hw
      · exact fun i hi => (mem_pop hd).mpr (Or.inl (h1 i hi))
      · intro i hi
        rcases (mem_pop hd).mp hi with hi | hi
        · exact h2 i hi
        · exact close_closed U h _ _ (h2 _ (List.mem_append_left _ hd)) i hi
      · intro k hk j hj
        rcases List.mem_cons.mp hk with hk | hk
        · exact (mem_pop hd).mpr (Or.inr (hk ▸ hj))
        · exact (mem_pop hd).mpr (Or.inl (h3 k hk j hj))

/-- Started as the constructor does (`to_expand = set(names)`, `names = set()`), any
pop order that terminates yields exactly the closure. -/
theorem close_order_irrelevant (U : Universe) (h : WF U) (choose : List Nat → Nat)
    (hch : ∀ te, te ≠ [] → choose te ∈ te) (s r : List Nat) (fuel : Nat)
    (hw : worklist U choose fuel (s, []) = some r) (i : Nat) :
    i ∈ r ↔ closeFn U (ofList s) i = true :=
  worklist_eq_close U h choose hch s fuel s [] r (fun _ hi => List.mem_append_left _ hi)
    (fun i hi => close_extensive U _ i (ofList_eq_true.mpr (List.append_nil s ▸ hi))) (fun _ hk => nomatch hk) hw i

/-! ## lookup order -/

/-- An order *respects* the dependencies when every element comes after all of its required
dimensions (what `expandDataId` relies on: the keys needed to fetch a record are known). -/
def Respects (U : Universe) (l : List Nat) : Prop :=
  ∀ (i e : Nat), l[i]? = some e → ∀ r ∈ (elemAt U e).req, r ∈ l.take i

theorem respects_append {U : Universe} {l l' : List Nat} (h : Respects U l)
    (h' : ∀ i e, l'[i]? = some e → ∀ r ∈ (elemAt U e).req, r ∈ l ∨ r ∈ l'.take i) : Respects U (l ++ l') := by
  intro i e he r hr
  rw [List.take_append, List.mem_append]
  rw [List.getElem?_append] at he
  split at he
  · exact Or.inl (h i e he r hr)
  · rw [List.take_of_length_le (by omega)]
    exact h' _ e he r hr

/-- what `lookup_order` keeps while it runs on the group `g` (state = (done, order)): `done` and `order` have the
same members, all of them in `g`; `order` has no repetition and respects the dependencies -/
structure LInv (U : Universe) (g : List Nat) (s : List Nat × List Nat) : Prop where
  same : ∀ x, x ∈ s.1 ↔ x ∈ s.2
  sub : ∀ x ∈ s.2, x ∈ g
  nodup : s.2.Nodup
  resp : Respects U s.2

/-- the only change of state there is: `add_to_order` appends a member that is not done and whose requirements are -/
theorem LInv.push {U : Universe} {g done order : List Nat} {e : Nat} (h : LInv U g (done, order)) (he : e ∈ g)
    (hd : e ∉ done) (hr : ∀ r ∈ (elemAt U e).req, r ∈ done) : LInv U g (e :: done, order ++ [e]) where
  same x := by simp [h.same x, or_comm]
  sub x hx := by
    rcases List.mem_append.mp hx with hx | hx
    · exact h.sub x hx
    · rw [List.mem_singleton.mp hx]; exact he
  nodup := by
    rw [List.nodup_append]
    refine ⟨h.nodup, List.nodup_cons.mpr ⟨List.not_mem_nil, List.nodup_nil⟩, fun a ha b hb hab => ?_⟩
    rw [hab, List.mem_singleton.mp hb] at ha
    exact hd ((h.same e).mpr ha)
  resp := by
    refine respects_append h.resp fun i x hx r hr' => Or.inl ((h.same r).mp (hr r ?_))
    rw [List.mem_singleton.mp (List.mem_of_getElem? hx)] at hr'
    exact hr'

theorem addToOrder_inv (U : Universe) (g : List Nat) (hg : Closed U (ofList g)) (fuel e : Nat) (s : List Nat × List Nat)
    (he : e ∈ g) (h : LInv U g s) : LInv U g (addToOrder U fuel e s) := by
  fun_induction addToOrder U fuel e s with
  | case1 | case2 | case3 => exact h
  | case4 n e done order h1 h2 ih =>
    refine List.foldlRecOn _ _ (h.push he (by simpa using h1) (by simpa using h2)) fun a ha o ho => ih a o ?_ ha
    exact closed_ofList.mp hg e he o (List.mem_append_right _ ho)

theorem lookupLoop_inv (U : Universe) (g : List Nat) (hg : Closed U (ofList g)) (req : List Nat)
    (hreq : ∀ r ∈ req, r ∈ g) (fuel : Nat) (s : List Nat × List Nat) (h : LInv U g s) :
    LInv U g (lookupLoop U req fuel s) := by
  fun_induction lookupLoop U req fuel s with
  | case1 | case2 => exact h
  | case3 n s _ ih => exact ih (List.foldlRecOn _ _ h fun a ha d hd => addToOrder_inv U g hg _ d a (hreq d hd) ha)

theorem lookupOrder_eq (U : Universe) (g : List Nat) (hg : Closed U (ofList g)) :
    ∃ done order, LInv U g (done, order) ∧
      lookupOrder U g = order ++ (elements U g).filter fun e => !done.contains e :=
  have h := lookupLoop_inv U g hg (required U g) (fun r hr => ((required_char U g r).mp hr).1) (U.length + 1) ([], [])
    ⟨fun _ => Iff.rfl, fun _ hx => (nomatch hx), List.nodup_nil, fun i e he => by simp at he⟩
  ⟨_, _, h, rfl⟩

theorem mem_elements {U : Universe} {g : List Nat} {e : Nat} :
    e ∈ elements U g ↔ e < U.length ∧ (∀ r ∈ (elemAt U e).req, r ∈ g) ∧ ((elemAt U e).isDim = true → e ∈ g) := by
  cases h : (elemAt U e).isDim <;> simp [elements, h]

theorem mem_elements_of_mem {U : Universe} {g : List Nat} (hg : Closed U (ofList g)) {x : Nat} (hx : x ∈ g)
    (hlt : x < U.length) : x ∈ elements U g :=
  mem_elements.mpr
    ⟨hlt, fun r hr => closed_ofList.mp hg x hx r (List.mem_append_left _ hr), fun _ => hx⟩

theorem elements_sorted (U : Universe) (g : List Nat) : (elements U g).Pairwise (· < ·) :=
  List.Pairwise.filter _ List.pairwise_lt_range

/-- **`lookup_order` respects the dependency order**: every element appears after all of its
required dimensions — for every well-formed universe and every dependency-closed group. -/
theorem lookupOrder_respects (U : Universe) (h : WF U) (g : List Nat)
    (hg : Closed U (ofList g)) : Respects U (lookupOrder U g) := by
  obtain ⟨done, order, hinv, heq⟩ := lookupOrder_eq U g hg
  rw [heq]
  refine respects_append hinv.resp fun i e he r hr => ?_
  -- `e` is one of the elements appended at the end, in universe order; a requirement `r` of it is an earlier element
  -- of the group, so it is done already or stands before `e` among the appended ones
  have hel := mem_elements.mp (List.mem_filter.mp (List.mem_of_getElem? he)).1
  have hrlt := dep_lt h (List.mem_append_left _ hr)
  by_cases hrd : r ∈ done
  · exact Or.inl ((hinv.same r).mp hrd)
  · refine Or.inr (((elements_sorted U g).filter _).mem_take_of_lt he ?_ hrlt)
    exact List.mem_filter.mpr ⟨mem_elements_of_mem hg (hel.2.1 r hr) (by omega), by simpa using hrd⟩

/-- **`lookup_order` is a permutation of the group's elements**: it has no repetition and its members
are exactly `elements` — for every universe and every dependency-closed group (whatever the loop's
fuel: what the loop did not reach is appended at the end, as in the source). -/
theorem lookupOrder_perm (U : Universe) (g : List Nat) (hg : Closed U (ofList g))
    (hlt : ∀ x ∈ g, x < U.length) :
    (lookupOrder U g).Nodup ∧ ∀ e, e ∈ lookupOrder U g ↔ e ∈ elements U g := by
  obtain ⟨done, order, hinv, heq⟩ := lookupOrder_eq U g hg
  rw [heq]
  constructor
  · rw [List.nodup_append]
    refine ⟨hinv.nodup, ((elements_sorted U g).imp Nat.ne_of_lt).sublist List.filter_sublist, ?_⟩
    intro a ha b hb hab
    subst hab
    simpa [(hinv.same a).mpr ha] using (List.mem_filter.mp hb).2
  · intro e
    simp only [List.mem_append, List.mem_filter, Bool.not_eq_true', List.contains_eq_mem, decide_eq_false_iff_not]
    constructor
    · rintro (h | h)
      · exact mem_elements_of_mem hg (hinv.sub e h) (hlt e (hinv.sub e h))
      · exact h.1
    · intro h
      by_cases hd : e ∈ done
      · exact Or.inl ((hinv.same e).mp hd)
      · exact Or.inr ⟨h, hd⟩

/-- non-vacuity: a closed group of a small universe (instrument ← detector; band ⇐ physical_filter) -/
example :
    let U : Universe := [⟨true, [], []⟩, ⟨true, [], []⟩, ⟨true, [0], []⟩, ⟨true, [0], [1]⟩]
    lookupOrder U [0, 1, 2, 3] = [0, 2, 3, 1] ∧ (∀ x ∈ [0, 1, 2, 3], x < U.length) := by decide

/-! ## the shipped universes are well-formed (kernel-checked on the extracted tables) -/
theorem universe_default_wf : WF Gen.universe_default := by unfold WF; decide +kernel
theorem universe_old0_wf : WF Gen.universe_old0 := by unfold WF; decide +kernel
theorem universe_old1_wf : WF Gen.universe_old1 := by unfold WF; decide +kernel
theorem universe_old2_wf : WF Gen.universe_old2 := by unfold WF; decide +kernel
theorem universe_old3_wf : WF Gen.universe_old3 := by unfold WF; decide +kernel
theorem universe_old4_wf : WF Gen.universe_old4 := by unfold WF; decide +kernel
theorem universe_old5_wf : WF Gen.universe_old5 := by unfold WF; decide +kernel
theorem universe_old6_wf : WF Gen.universe_old6 := by unfold WF; decide +kernel
theorem universe_old7_wf : WF Gen.universe_old7 := by unfold WF; decide +kernel

/-! non-vacuity: a 3-element universe 0 ← 1 (requires 0), 2 implies 1 -/
example : close [⟨true, [], []⟩, ⟨true, [0], []⟩, ⟨true, [], [1]⟩] [2] = [0, 1, 2] := by decide
example : required [⟨true, [], []⟩, ⟨true, [0], []⟩, ⟨true, [], [1]⟩] [0, 1, 2] = [0, 2] := by decide

/-! ## the order on groups is the subset order of the names: a partial order, not a total one -/

theorem subsetB_iff (a b : List Nat) : subsetB a b = true ↔ ∀ x ∈ a, x ∈ b := by
  simp [subsetB]

theorem le_refl (a : List Nat) : leB a a = true := by simp [leB, subsetB_iff]

theorem le_trans (a b c : List Nat) (h1 : leB a b = true) (h2 : leB b c = true) : leB a c = true := by
  simp only [leB, subsetB_iff] at *
  exact fun x hx => h2 x (h1 x hx)

/-- antisymmetry: two groups below each other have the same names (and, being sorted lists without
repetition as `close` produces them, are the same list — `names_sorted`) -/
theorem le_antisymm (a b : List Nat) (h1 : leB a b = true) (h2 : leB b a = true) : ∀ x, x ∈ a ↔ x ∈ b := by
  simp only [leB, subsetB_iff] at *
  exact fun x => ⟨h1 x, h2 x⟩

theorem eq_iff (a b : List Nat) : eqB a b = true ↔ ∀ x, x ∈ a ↔ x ∈ b := by
  simp only [eqB, Bool.and_eq_true, subsetB_iff]
  exact ⟨fun ⟨h1, h2⟩ x => ⟨h1 x, h2 x⟩, fun h => ⟨fun x hx => (h x).mp hx, fun x hx => (h x).mpr hx⟩⟩

theorem lt_iff (a b : List Nat) : ltB a b = true ↔ leB a b = true ∧ eqB a b = false := by
  simp only [ltB, leB, eqB]
  cases subsetB a b <;> cases subsetB b a <;> simp

theorem gt_iff_lt_swap (a b : List Nat) : gtB a b = ltB b a := by simp [gtB, ltB]
theorem ge_iff_le_swap (a b : List Nat) : geB a b = leB b a := by simp [geB, leB]

theorem lt_irrefl (a : List Nat) : ltB a a = false := by simp [ltB]

/-- `<` and `>` exclude each other and equality: at most one of the three holds … -/
theorem lt_gt_eq_exclusive (a b : List Nat) :
    ¬ (ltB a b = true ∧ gtB a b = true) ∧ ¬ (ltB a b = true ∧ eqB a b = true) ∧ ¬ (gtB a b = true ∧ eqB a b = true) := by
  simp only [ltB, gtB, eqB]
  cases subsetB a b <;> cases subsetB b a <;> simp

/-- … and possibly none: the order is **not total**.  In the default universe {band} and {healpix1}
(elements 0 and 1) are closed groups neither of which is below the other, so `a > b` cannot be computed as `¬ (a ≤ b)`. -/
theorem order_not_total :
    let U := Gen.universe_default
    ∃ a b, closeFast U a = a ∧ closeFast U b = b ∧ leB a b = false ∧ geB a b = false ∧ ltB a b = false ∧ gtB a b = false ∧ eqB a b = false :=
  ⟨[0], [1], by decide +kernel, by decide +kernel, by decide, by decide, by decide, by decide, by decide⟩

theorem disjoint_iff (a b : List Nat) : disjointB a b = true ↔ ∀ x ∈ a, x ∉ b := by
  simp [disjointB]

theorem disjoint_symm (a b : List Nat) : disjointB a b = disjointB b a := by
  rw [Bool.eq_iff_iff, disjoint_iff, disjoint_iff]
  exact ⟨fun h x hx hxa => h x hxa hx, fun h x hx hxb => h x hxb hx⟩

end C12
