import ButlerModel.Model.Predicate
import ButlerModel.Model.NormalForm
import ButlerModel.Gen.PredicatePy
import ButlerModel.Lemmas.List
/-! # C15 — boolean rewriting of predicates preserves their truth table

`C15`: the new query system's `Predicate` (`Model/Predicate.lean`), with `C15.Translated` for its operations as translated from
the source (`Gen/PredicatePy`); `C15.Legacy`: the legacy normaliser (`Model/NormalForm.lean`).  All theorems hold for **every** predicate, every number of operands and every assignment of the
atoms to SQL truth values (Kleene logic; two-valued logic is the special case without `nn`). -/
namespace C15
open Pred K3

@[simp] theorem evalGroup_nil (σ) : evalGroup σ [] = .ff := rfl

@[simp] theorem evalGroup_cons (σ) (l : Leaf) (g) : evalGroup σ (l :: g) = or3 (evalLeaf σ l) (evalGroup σ g) := rfl

@[simp] theorem eval_nil (σ) : eval σ [] = .tt := rfl

@[simp] theorem eval_cons (σ) (g : List Leaf) (p) : eval σ (g :: p) = and3 (evalGroup σ g) (eval σ p) := rfl

theorem evalLeaf_invert (σ) (l : Leaf) : evalLeaf σ l.invert = not3 (evalLeaf σ l) := by
  cases l <;> simp [Leaf.invert, evalLeaf]

theorem evalGroup_append (σ) (a b : List Leaf) :
    evalGroup σ (a ++ b) = or3 (evalGroup σ a) (evalGroup σ b) := by
  induction a with
  | nil => simp
  | cons x xs ih => simp [ih, or3_assoc]

theorem eval_append (σ) (a b : Operands) : eval σ (a ++ b) = and3 (eval σ a) (eval σ b) := by
  induction a with
  | nil => simp
  | cons x xs ih => simp [ih, and3_assoc]

theorem eval_implAnd (σ) (a b : Operands) : eval σ (implAnd a b) = and3 (eval σ a) (eval σ b) :=
  eval_append σ a b

/-- The `a is b` shortcut of `_impl_and` (returning `a` instead of `a + a`) has the same meaning. -/
theorem eval_and_self (σ) (a : Operands) : and3 (eval σ a) (eval σ a) = eval σ a := by
  cases eval σ a <;> rfl

theorem eval_map_append (σ) (x : List Leaf) (b : Operands) :
    eval σ (b.map (fun y => x ++ y)) = or3 (evalGroup σ x) (eval σ b) := by
  induction b with
  | nil => simp
  | cons y ys ih => simp [ih, evalGroup_append, or3_and3_distrib_left]

/-- `_impl_or` (the Cartesian product of OR-groups) is disjunction. -/
theorem eval_implOr (σ) (a b : Operands) : eval σ (implOr a b) = or3 (eval σ a) (eval σ b) := by
  unfold implOr
  induction a with
  | nil => simp
  | cons x xs ih =>
    simp only [List.flatMap_cons, eval_append, eval_map_append, ih, eval_cons]
    rw [or3_and3_distrib_right]

/-- `from_bool`: `()` is TRUE and `((),)` is FALSE. -/
theorem eval_fromBool (σ) (v : Bool) : eval σ (fromBool v) = if v then .tt else .ff := by
  cases v <;> simp [fromBool]

theorem eval_of_nil_mem (σ) (p : Operands) (h : [] ∈ p) : eval σ p = .ff := by
  induction p with
  | nil => cases h
  | cons g p ih =>
    rcases List.mem_cons.mp h with rfl | h
    · exact and3_f_left (eval σ p)
    · rw [eval_cons, ih h, and3_f_right]

/-- the simplification shared by `logical_and` and its identity-flag version: a conjunction with an empty
OR-group is FALSE already, so collapsing it to `[[]]` changes nothing -/
theorem eval_collapse (σ) (ops : Operands) : eval σ (if !(ops.all (fun g => !g.isEmpty)) then [[]] else ops) = eval σ ops := by
  split
  · rename_i h
    have : [] ∈ ops := by simpa [List.isEmpty_iff] using h
    rw [eval_of_nil_mem σ ops this]
    rfl
  · rfl

/-- n-ary `logical_and`, including the "some operand is FALSE ⇒ collapse to FALSE" simplification. -/
theorem eval_logicalAnd (σ) (self : Operands) (args : List Operands) :
    eval σ (logicalAnd self args) = args.foldl (fun acc p => and3 acc (eval σ p)) (eval σ self) :=
  (eval_collapse σ _).trans (List.foldl_hom (eval σ) fun a b => (eval_implAnd σ a b).symm).symm

/-- Identity flags are only ever set when the operand really is the accumulated value. -/
def Consistent : Operands → List (Bool × Operands) → Prop
  | _, [] => True
  | acc, b :: bs => (b.1 = true → b.2 = acc) ∧ Consistent (implAndId acc b) bs

theorem eval_implAndId (σ) (a : Operands) (b : Bool × Operands) (h : b.1 = true → b.2 = a) :
    eval σ (implAndId a b) = and3 (eval σ a) (eval σ b.2) := by
  fun_cases implAndId a b with
  | case1 hb => rw [h hb, eval_and_self]
  | case2 => exact eval_append σ a b.2

theorem eval_foldl_andId (σ) (args : List (Bool × Operands)) (self : Operands) (h : Consistent self args) :
    eval σ (args.foldl implAndId self) = args.foldl (fun acc p => and3 acc (eval σ p.2)) (eval σ self) := by
  induction args generalizing self with
  | nil => rfl
  | cons b bs ih => rw [List.foldl_cons, ih _ h.2, eval_implAndId σ self b h.1, List.foldl_cons]

/-- n-ary `logical_and` *including* the `a is b` shortcut of `_impl_and`. -/
theorem eval_logicalAndId (σ) (self : Operands) (args : List (Bool × Operands)) (h : Consistent self args) :
    eval σ (logicalAndId self args) = args.foldl (fun acc p => and3 acc (eval σ p.2)) (eval σ self) :=
  (eval_collapse σ _).trans (eval_foldl_andId σ args self h)

theorem eval_logicalOr (σ) (self : Operands) (args : List Operands) :
    eval σ (logicalOr self args) = args.foldl (fun acc p => or3 acc (eval σ p)) (eval σ self) :=
  (List.foldl_hom (eval σ) fun a b => (eval_implOr σ a b).symm).symm

theorem eval_notGroup (σ) (g : List Leaf) (acc : Operands) :
    eval σ (g.foldl (fun ng leaf => implAnd ng [[leaf.invert]]) acc) =
      and3 (eval σ acc) (not3 (evalGroup σ g)) := by
  induction g generalizing acc with
  | nil => simp [not3]
  | cons l ls ih =>
    simp only [List.foldl_cons, ih, eval_implAnd, eval_cons, evalGroup_cons, evalGroup_nil, eval_nil,
      evalLeaf_invert, not3_or3, or3_f_right, and3_t_right, and3_assoc]

theorem eval_notFold (σ) (p acc : Operands) :
    eval σ (p.foldl (fun acc g => implOr acc (g.foldl (fun ng leaf => implAnd ng [[leaf.invert]]) [])) acc) =
      or3 (eval σ acc) (not3 (eval σ p)) := by
  induction p generalizing acc with
  | nil => simp [not3]
  | cons g gs ih =>
    simp only [List.foldl_cons, ih, eval_implOr, eval_notGroup, eval_nil, and3_t_left, eval_cons, not3_and3,
      or3_assoc]

theorem eval_logicalNot (σ) (p : Operands) : eval σ (logicalNot p) = not3 (eval σ p) := by
  unfold logicalNot
  rw [eval_notFold]
  simp

theorem not_involutive (σ) (p : Operands) : eval σ (logicalNot (logicalNot p)) = eval σ p := by
  simp [eval_logicalNot]

/-! ## what a rewriting visitor computes (replacements need not be equivalent) -/

/-- the value a leaf contributes after rewriting: a replaced positive leaf takes the value of its
replacement; a leaf under NOT is rebuilt from the original (`apply_logical_not` ignores the result) -/
def evalLeafR (σ : Nat → K3) (f : Nat → Option Operands) : Leaf → K3
  | .pos k => match f k with
    | none => σ k
    | some r => eval σ r
  | .neg k => not3 (σ k)

def evalGroupR (σ : Nat → K3) (f : Nat → Option Operands) (g : List Leaf) : K3 := g.foldr (fun l acc => or3 (evalLeafR σ f l) acc) .ff

def evalR (σ : Nat → K3) (f : Nat → Option Operands) (p : Operands) : K3 := p.foldr (fun g acc => and3 (evalGroupR σ f g) acc) .tt

/-- the operand list the visitor rebuilds: each original with its replacement, if it has one -/
theorem zipWith_getD (h : α → Option Operands) (d : α → Operands) (l : List α) :
    List.zipWith (fun o r => (r : Option Operands).getD (d o)) l (l.map h) = l.map fun o => (h o).getD (d o) := by
  rw [List.zipWith_map_right, List.zipWith_self]

theorem evalLeafR_getD (σ) (f : Nat → Option Operands) (l : Leaf) : eval σ ((visitLeaf f l).getD [[l]]) = evalLeafR σ f l := by
  cases l with
  | pos k =>
    simp only [visitLeaf, evalLeafR]
    cases f k <;> simp [evalLeaf]
  | neg k =>
    simp only [visitLeaf, evalLeafR]
    cases f k <;> simp [eval_logicalNot, evalLeaf]

theorem evalGroupR_congr (σ) (f : Nat → Option Operands) (g : List Leaf) (h : ∀ l ∈ g, evalLeafR σ f l = evalLeaf σ l) :
    evalGroupR σ f g = evalGroup σ g := by
  unfold evalGroupR evalGroup
  rw [← List.foldr_map (f := evalLeafR σ f) (g := or3), List.map_congr_left h, List.foldr_map]

theorem evalR_congr (σ) (f : Nat → Option Operands) (p : Operands) (h : ∀ g ∈ p, evalGroupR σ f g = evalGroup σ g) :
    evalR σ f p = eval σ p := by
  unfold evalR eval
  rw [← List.foldr_map (f := evalGroupR σ f) (g := and3), List.map_congr_left h, List.foldr_map]

theorem visitOr_characterised (σ) (f : Nat → Option Operands) (g : List Leaf) :
    eval σ ((visitOr f g).getD [g]) = evalGroupR σ f g := by
  rw [visitOr]
  split
  · rename_i h
    simp only [List.all_eq_true, List.mem_map, forall_exists_index, and_imp, forall_apply_eq_imp_iff₂, Option.isNone_iff_eq_none] at h
    rw [evalGroupR_congr σ f g fun l hl => by rw [← evalLeafR_getD, h l hl]; simp]
    simp
  · simp only [Option.getD_some, eval_logicalOr, zipWith_getD, List.foldl_map, evalLeafR_getD]
    rw [List.foldl_eq_op_foldr or3 .ff or3_assoc or3_f_right]
    simp [fromBool, evalGroupR]

/-- **What a rewriting visitor yields, for arbitrary replacements**: the original conjunction of
disjunctions with every replaced positive leaf evaluated as its replacement (constants, other leaves,
compound predicates alike) and every other leaf as itself. -/
theorem rewrite_characterised (σ) (f : Nat → Option Operands) (p : Operands) : eval σ (rewrite f p) = evalR σ f p := by
  rw [rewrite, visitAnd]
  split
  · rename_i h
    simp only [List.all_eq_true, List.mem_map, forall_exists_index, and_imp, forall_apply_eq_imp_iff₂, Option.isNone_iff_eq_none] at h
    rw [evalR_congr σ f p fun g hg => by rw [← visitOr_characterised, h g hg]; simp]
    simp
  · simp only [Option.getD_some, eval_logicalAnd, zipWith_getD, List.foldl_map, visitOr_characterised]
    rw [List.foldl_eq_op_foldr and3 .tt and3_assoc and3_t_right]
    simp [fromBool, evalR]

/-- **A rewriting visitor that replaces leaves by equivalent predicates yields an equivalent
predicate** (also for leaves under NOT, for every predicate and assignment). -/
theorem rewrite_preserves (σ) (f : Nat → Option Operands) (hf : ∀ k r, f k = some r → eval σ r = σ k)
    (p : Operands) : eval σ (rewrite f p) = eval σ p := by
  rw [rewrite_characterised]
  refine evalR_congr σ f p fun g _ => evalGroupR_congr σ f g fun l _ => ?_
  cases l with
  | pos k =>
    simp only [evalLeafR, evalLeaf]
    cases hk : f k with
    | none => rfl
    | some r => exact hf k r hk
  | neg k => rfl

/-- replacing a leaf of a disjunction by constant False leaves the other disjuncts (not True) -/
example : rewrite (fun k => if k = 1 then some (fromBool false) else none) [[.pos 0, .pos 1]] = [[.pos 0]] := by decide
example : rewrite (fun k => if k = 1 then some (fromBool true) else none) [[.pos 0, .pos 1], [.pos 2]] = [[.pos 2]] := by decide

example : logicalNot [[.pos 0, .pos 1], [.neg 2]] = [[.neg 0, .pos 2], [.neg 1, .pos 2]] := by decide
example : logicalAnd [[.pos 0]] [[[]], [[.pos 1]]] = [[]] := by decide

end C15

/-! ## T-tie: the combinators **as translated from `queries/tree/_predicate.py` on every run**

`Gen/PredicatePy.lean` is regenerated from the working tree by `translate/gen_predicate.py`
(`for` loops become folds, the `itertools.product` comprehension a `flatMap`).  The theorems below are
about those generated definitions: a change of `_impl_or`, of the collapse in `logical_and`, of the
starting values or the order of the loops in `logical_not`, … changes the definitions they speak about. -/
namespace C15.Translated
open Pred K3 C15

/-- The translated combinators are, by unfolding, the ones the rest of this file reasons about, so the theorems
above (`rewrite_preserves`, `rewrite_characterised`, …) are about the source's own operations. -/
theorem translated_ops_are_model_ops :
    (∀ s a, Gen.PredPy.logicalAnd s a = Pred.logicalAnd s a) ∧
    (∀ s a, Gen.PredPy.logicalOr s a = Pred.logicalOr s a) ∧
    (∀ p, Gen.PredPy.logicalNot p = Pred.logicalNot p) ∧
    (∀ v, Gen.PredPy.fromBool v = Pred.fromBool v) :=
  ⟨fun _ _ => rfl, fun _ _ => rfl, fun _ => rfl, fun _ => rfl⟩

/-- `_impl_and` means AND. -/
theorem translated_implAnd (σ) (a b : Operands) :
    eval σ (Gen.PredPy.implAnd a b) = and3 (eval σ a) (eval σ b) := eval_implAnd σ a b

/-- `_impl_or` (the product of the OR-groups) means OR. -/
theorem translated_implOr (σ) (a b : Operands) :
    eval σ (Gen.PredPy.implOr a b) = or3 (eval σ a) (eval σ b) := eval_implOr σ a b

/-- `from_bool`: the constant cases. -/
theorem translated_fromBool (σ) (v : Bool) : eval σ (Gen.PredPy.fromBool v) = if v then .tt else .ff :=
  eval_fromBool σ v

/-- **`logical_and` as written in the source** (n-ary, with its collapse to FALSE) is the conjunction of
its operands under every assignment. -/
theorem translated_logicalAnd (σ) (self : Operands) (args : List Operands) :
    eval σ (Gen.PredPy.logicalAnd self args) = args.foldl (fun acc p => and3 acc (eval σ p)) (eval σ self) :=
  eval_logicalAnd σ self args

/-- **`logical_or` as written in the source** is the disjunction of its operands. -/
theorem translated_logicalOr (σ) (self : Operands) (args : List Operands) :
    eval σ (Gen.PredPy.logicalOr self args) = args.foldl (fun acc p => or3 acc (eval σ p)) (eval σ self) :=
  eval_logicalOr σ self args

/-- **`logical_not` as written in the source** (De Morgan by two nested loops) is negation. -/
theorem translated_logicalNot (σ) (p : Operands) :
    eval σ (Gen.PredPy.logicalNot p) = not3 (eval σ p) := eval_logicalNot σ p

/-- non-vacuity: `NOT ((A AND B) OR C)` through the translated operations -/
example : Gen.PredPy.logicalNot (Gen.PredPy.logicalOr (Gen.PredPy.logicalAnd [[.pos 0]] [[[.pos 1]]]) [[[.pos 2]]]) =
    [[.neg 0, .neg 1], [.neg 0, .neg 2], [.neg 2, .neg 1], [.neg 2, .neg 2]] := by decide

end C15.Translated

/-! # Legacy normaliser (`normalForm.py`) -/
namespace C15.Legacy
open NF K3

/-! `op3 op` is `and3` or `or3`: what the normaliser needs of the two, said once for both. -/

theorem op3_assoc : ∀ (op : Bool) (a b c : K3), op3 op (op3 op a b) c = op3 op a (op3 op b c)
  | false => or3_assoc
  | true => and3_assoc

theorem op3_unit_left : ∀ (op : Bool) (a : K3), op3 op (unit3 op) a = a
  | false => or3_f_left
  | true => and3_t_left

theorem op3_unit_right : ∀ (op : Bool) (a : K3), op3 op a (unit3 op) = a
  | false => or3_f_right
  | true => and3_t_right

theorem not3_op3 : ∀ (op : Bool) (a b : K3), not3 (op3 op a b) = op3 (!op) (not3 a) (not3 b)
  | false => not3_or3
  | true => not3_and3

theorem op3_distrib_left : ∀ (op : Bool) (a b c : K3), op3 op a (op3 (!op) b c) = op3 (!op) (op3 op a b) (op3 op a c)
  | false => or3_and3_distrib_left
  | true => and3_or3_distrib_left

theorem op3_distrib_right : ∀ (op : Bool) (a b c : K3), op3 op (op3 (!op) a b) c = op3 (!op) (op3 op a c) (op3 op b c)
  | false => or3_and3_distrib_right
  | true => and3_or3_distrib_right

theorem evalW_not (σ) (w : W) : evalW σ w.not_ = not3 (evalW σ w) := by
  induction w with
  | atom k => rfl
  | natom k => exact (not3_not3 _).symm
  | bin op l r ihl ihr => simp only [W.not_, evalW, ihl, ihr, not3_op3]

theorem toW_preserves (σ) (t : Tree) : evalW σ (toW t) = evalT σ t := by
  induction t with
  | atom k => rfl
  | not t ih => exact (evalW_not σ (toW t)).trans (congrArg not3 ih)
  | and l r ihl ihr | or l r ihl ihr => simp [toW, evalT, evalW, op3, ihl, ihr]
  | parens t ih => exact ih

theorem eq_not_of_not_allows {form o op : Bool} (h : ¬ allows form o op = true) : o = !op := by
  cases o <;> cases op <;> simp [allows] at h ⊢

/-- One dispatch step preserves meaning whenever the recursive call does: wherever an operand's operator
is not allowed below `op` it is the other operator, and `op` is distributed over it. -/
theorem normDispatch_preserves (σ) (form : Bool) (norm : W → W)
    (hn : ∀ w, evalW σ (norm w) = evalW σ w) (l : W) (op : Bool) (r : W) :
    evalW σ (normDispatch form norm l op r) = op3 op (evalW σ l) (evalW σ r) := by
  fun_cases normDispatch form norm l op r with
  | case1 | case5 | case7 | case9 => rfl  -- every operator below `op` is allowed there
  | case2 _ _ _ _ _ _ _ h2 | case8 _ _ _ _ h2 =>  -- the right operand's is not
    cases eq_not_of_not_allows h2
    simp only [evalW, hn, op3_distrib_left]
  | case3 _ _ _ _ _ _ h1 | case6 _ _ _ _ h1 =>  -- the left operand's is not
    cases eq_not_of_not_allows h1
    simp only [evalW, hn, op3_distrib_right]
  | case4 _ _ _ _ _ _ h1 h2 =>  -- neither is
    cases eq_not_of_not_allows h1
    cases eq_not_of_not_allows h2
    simp only [evalW, hn]
    rw [op3_distrib_right, op3_distrib_left, op3_distrib_left]

/-- **Normalisation preserves the truth table**, for every formula, both normal forms, every
assignment (Kleene logic) and every fuel value. -/
theorem normalize_preserves (σ) (form : Bool) (fuel : Nat) (w : W) :
    evalW σ (normalize form fuel w) = evalW σ w := by
  induction fuel generalizing w with
  | zero => rfl
  | succ n ih =>
    unfold normalize
    cases w with
    | atom k | natom k => rfl
    | bin op l r =>
      dsimp only
      split
      · rfl
      · rw [normDispatch_preserves σ form _ ih, ih, ih, evalW]

theorem evalList_append (σ) (op : Bool) (a b : List W) :
    evalList σ op (a ++ b) = op3 op (evalList σ op a) (evalList σ op b) := by
  induction a with
  | nil => exact (op3_unit_left op _).symm
  | cons x xs ih =>
    simp only [evalList, List.cons_append, List.foldr_cons] at ih ⊢
    rw [ih, op3_assoc]

theorem evalList_singleton (σ) (op : Bool) (w : W) : evalList σ op [w] = evalW σ w := op3_unit_right op _

theorem flatten_preserves (σ) (op : Bool) (w : W) : evalList σ op (flatten op w) = evalW σ w := by
  fun_induction flatten op w with
  | case1 o l r h ihl ihr =>
    cases (by simpa using h : o = op)
    rw [evalList_append, ihl, ihr]
    rfl
  | case2 | case3 => exact evalList_singleton σ op _

theorem evalNF_map_flatten (σ) (form : Bool) (ws : List W) :
    evalNF σ form (ws.map (flatten (!form))) = evalList σ form ws := by
  unfold evalNF
  rw [List.foldr_map]
  simp only [flatten_preserves]
  rfl

/-- **`NormalFormExpression.fromTree` preserves the truth table** of the original expression tree
(conjunctive and disjunctive form, any fuel). -/
theorem fromTree_preserves (σ) (form : Bool) (fuel : Nat) (t : Tree) :
    evalNF σ form (fromTree form fuel t) = evalT σ t := by
  unfold fromTree
  rw [evalNF_map_flatten, flatten_preserves, normalize_preserves, toW_preserves]

/-! non-vacuity: `A OR (B AND C)` to CNF -/
example : normalize true 10 (.bin false (.atom 0) (.bin true (.atom 1) (.atom 2))) =
    .bin true (.bin false (.atom 0) (.atom 1)) (.bin false (.atom 0) (.atom 2)) := by decide
example : satisfies true (.bin false (.atom 0) (.bin true (.atom 1) (.atom 2))) = false := by decide

end C15.Legacy
