import ButlerModel.Model.Crash
/-! # C08 — a crash at any instant leaves a repository that reopens consistent

Proved of `Model/Crash.lean`: every prefix of an effect sequence that obeys the discipline (`guard`) leaves records, held datasets
and files consistent.  That the code's operations produce such sequences is not proved; the harness checks it on those it records. -/
namespace C08
open Crash

theorem not_named {d : DB} {p : Nat} (h : named d p = false) : ∀ r ∈ d.recs, r.2 ≠ p :=
  fun r hr => by simpa using List.any_eq_false.mp h r hr

theorem not_namedLive {d : DB} {p : Nat} (h : namedLive d p = false) : ∀ r ∈ d.recs, r.2 = p → r.1 ∉ d.loc :=
  fun r hr => by simpa using List.any_eq_false.mp h r hr

/-- Consistency only constrains the records and the held datasets: a view with fewer of either is consistent too. -/
theorem RecsOK.mono {d d' : DB} {f : Files} (h : RecsOK d f) (hr : d'.recs ⊆ d.recs) (hl : d'.loc ⊆ d.loc) :
    RecsOK d' f :=
  fun r hr' => ⟨(h r (hr hr')).1, fun hl' => (h r (hr hr')).2 (hl hl')⟩

/-- Database effects keep the current view consistent with the files: `recAdd` and `locAdd` by their guards, the
others because they add neither records nor held datasets. -/
theorem recsOK_applyDB (s : S) (e : Eff) (h : RecsOK (view s) s.files) (hg : guard s e = true) :
    RecsOK (applyDB (view s) e) s.files := by
  cases e with
  | recAdd rs =>
    simp only [Crash.guard, List.all_eq_true, beq_iff_eq] at hg
    intro r hr
    rcases List.mem_append.mp hr with hr | hr
    · exact ⟨by simp [hg r hr], fun _ => hg r hr⟩
    · exact h r hr
  | locAdd ids =>
    simp only [Crash.guard, List.all_eq_true, Bool.or_eq_true, Bool.not_eq_eq_eq_not, Bool.not_true,
      List.contains_eq_mem, decide_eq_false_iff_not, beq_iff_eq] at hg
    intro r hr
    refine ⟨(h r hr).1, fun hl => ?_⟩
    rcases List.mem_append.mp hl with hi | hi
    · exact (hg r hr).resolve_left (absurd hi)
    · exact (h r hr).2 hi
  | recDel ids => exact RecsOK.mono h List.filter_sublist.subset (List.Subset.refl _)
  | locDel ids => exact RecsOK.mono h (List.Subset.refl _) List.filter_sublist.subset
  | _ => exact h

/-- Putting `v` at path `p` keeps a view consistent if `v` is acceptable to every record that names `p`; the file effects
below are instances, each by its guard. -/
theorem recsOK_fset {d : DB} {f : Files} (h : RecsOK d f) (p : Nat) {v : Option Bool}
    (hv : ∀ r ∈ d.recs, r.2 = p → v ≠ some false ∧ (r.1 ∈ d.loc → v = some true)) : RecsOK d (fset f p v) := by
  intro r hr
  by_cases hp : r.2 = p
  · simpa [fset, hp] using hv r hr hp
  · simpa [fset, hp] using h r hr

theorem recsOK_fcreate {d : DB} {f : Files} (p : Nat) (h : RecsOK d f) (hn : named d p = false) :
    RecsOK d (fset f p (some false)) :=
  recsOK_fset h p fun r hr hp => absurd hp (not_named hn r hr)

theorem recsOK_fdone {d : DB} {f : Files} (p : Nat) (h : RecsOK d f) : RecsOK d (fset f p (some true)) :=
  recsOK_fset h p fun _ _ _ => ⟨by simp, fun _ => rfl⟩

theorem recsOK_fdel {d : DB} {f : Files} (p : Nat) (h : RecsOK d f) (hn : namedLive d p = false) :
    RecsOK d (fset f p none) :=
  recsOK_fset h p fun r hr hp => ⟨by simp, fun hl => absurd hl (not_namedLive hn r hr hp)⟩

theorem recsOK_link {d : DB} {f : Files} (a b : Nat) (h : RecsOK d f)
    (hg : f a = some true ∨ named d b = false) : RecsOK d (fset f b (f a)) :=
  recsOK_fset h b fun r hr hp =>
    hg.elim (fun hg => ⟨by simp [hg], fun _ => hg⟩) fun hg => absurd hp (not_named hg r hr)

theorem recsOK_rename {d : DB} {f : Files} (a b : Nat) (h : RecsOK d f)
    (hg : f a = some true ∨ named d b = false) (hn : namedLive d a = false) :
    RecsOK d (fset (fset f b (f a)) a none) :=
  recsOK_fdel a (recsOK_link a b h hg) hn

/-- **One step.** Every effect that passes its local guard preserves consistency of both the
committed state and the open transaction's view with the files. -/
theorem inv_apply (s : S) (e : Eff) (h : Inv s) (hg : guard s e = true) : Inv (apply s e) := by
  obtain ⟨hc, hv⟩ := h
  have hdb := recsOK_applyDB s e hv hg
  fun_cases apply s e with
  | case1 => exact ⟨hc, hc⟩  -- `begin`
  | case2 => exact ⟨hc, hv⟩
  | case3 d hp => rw [view, hp] at hv; exact ⟨hv, hv⟩  -- `commit`
  | case4 => exact ⟨hc, hv⟩
  | case5 => exact ⟨hc, hc⟩  -- `rollback`
  | case6 p =>  -- `fcreate`
    simp only [Crash.guard, Bool.and_eq_true, Bool.not_eq_eq_eq_not, Bool.not_true] at hg
    exact ⟨recsOK_fcreate p hc hg.1, recsOK_fcreate p hv hg.2⟩
  | case7 p => exact ⟨recsOK_fdone p hc, recsOK_fdone p hv⟩
  | case8 a b =>  -- `rename`
    simp only [Crash.guard, Bool.or_eq_true, beq_iff_eq, Bool.and_eq_true, Bool.not_eq_eq_eq_not, Bool.not_true, bne_iff_ne,
      ne_eq] at hg
    obtain ⟨⟨⟨h1, -⟩, hn1⟩, hn2⟩ := hg
    have g1 : s.files a = some true ∨ named s.db b = false := h1.imp id (·.1)
    have g2 : s.files a = some true ∨ named (view s) b = false := h1.imp id (·.2)
    exact ⟨recsOK_rename a b hc g1 hn1, recsOK_rename a b hv g2 hn2⟩
  | case9 a b =>  -- `link`
    simp only [Crash.guard, Bool.or_eq_true, beq_iff_eq, Bool.and_eq_true, Bool.not_eq_eq_eq_not, Bool.not_true] at hg
    have g1 : s.files a = some true ∨ named s.db b = false := hg.imp id (·.1)
    have g2 : s.files a = some true ∨ named (view s) b = false := hg.imp id (·.2)
    exact ⟨recsOK_link a b hc g1, recsOK_link a b hv g2⟩
  | case10 p =>  -- `fdel`
    simp only [Crash.guard, Bool.and_eq_true, Bool.not_eq_eq_eq_not, Bool.not_true] at hg
    exact ⟨recsOK_fdel p hc hg.1, recsOK_fdel p hv hg.2⟩
  | case11 => exact ⟨hc, hv⟩  -- `other`
  -- a database effect acts on the current view (`hdb`); the committed state changes only when no transaction is open, and
  -- then it is the view
  | case12 e _ _ _ _ _ _ _ _ _ d hp => rw [view, hp] at hdb; exact ⟨hc, hdb⟩
  | case13 e _ _ _ _ _ _ _ _ _ hp =>
    simp only [Crash.Inv, view, hp, Option.getD_none] at hdb ⊢
    exact ⟨hdb, hdb⟩

theorem inv_prefix (es : List Eff) (s : S) (h : Inv s) (hd : disciplined s es = true) (k : Nat) :
    Inv (runAll s (es.take k)) := by
  induction es generalizing s k with
  | nil => rwa [List.take_nil]
  | cons e es ih =>
    cases k with
    | zero => exact h
    | succ k =>
      simp only [disciplined, Bool.and_eq_true] at hd
      exact ih (apply s e) (inv_apply s e h hd.1) hd.2 k

/-- **Every crash point.** If the effect sequence of an operation obeys the discipline, then after
*every* prefix — i.e. whenever the process dies, also in the middle of a write — what a fresh process
finds (committed database + files) is consistent: every dataset the datastore holds has its complete
artifact, and no record names a half-written file. -/
theorem crash_consistent (es : List Eff) (s : S) (h : Inv s) (hd : disciplined s es = true) (k : Nat) :
    RecsOK (recover (runAll s (es.take k))).db (recover (runAll s (es.take k))).files :=
  (inv_prefix es s h hd k).1

/-- Datasets that an operation never mentions keep their records: only a `recDel` that names the dataset removes one. -/
theorem untouched_record (e : Eff) (d : DB) (r : Nat × Nat)
    (hr : r ∈ d.recs) (hdel : ∀ ids, e = .recDel ids → r.1 ∉ ids) : r ∈ (applyDB d e).recs := by
  cases e with
  | recAdd rs => exact List.mem_append_right _ hr
  | recDel ids => exact List.mem_filter.mpr ⟨hr, by simpa using hdel ids rfl⟩
  | _ => exact hr

/-- The shape of `Butler.put` as the code performs it today (registry insert, artifact written under a
temporary name and renamed, records and location inserted, commit) is disciplined, here from the empty repository… -/
def putShape : List Eff := [.begin, .regAdd [1], .fcreate 8, .fdone 8, .rename 8 7, .recAdd [(1, 7)], .locAdd [1], .commit]

example : disciplined {} putShape = true := by decide

/-- …whereas inserting the record before the artifact is complete, or writing in place, is not. -/
example : disciplined {} [.begin, .regAdd [1], .recAdd [(1, 7)], .fcreate 7, .fdone 7, .locAdd [1], .commit] = false := by decide

/-- The shape of a purge: move to trash and forget in one transaction, commit, then delete the file,
then the rows. Deleting the file before the commit is not disciplined. -/
def purgeShape : List Eff :=
  [.begin, .locDel [1], .trashAdd [1], .regDel [1], .commit, .fdel 7, .begin, .recDel [1], .trashDel [1], .commit]

def stored1 : S := { db := { reg := [1], loc := [1], recs := [(1, 7)] }, files := fun q => if q = 7 then some true else none }

example : disciplined stored1 purgeShape = true := by decide

example : disciplined stored1 [.begin, .locDel [1], .trashAdd [1], .fdel 7, .commit] = false := by decide

end C08
