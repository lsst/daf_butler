import ButlerModel.Model.Artifacts
import ButlerModel.Model.PathNorm
import ButlerModel.Gen.TrashPy
import ButlerModel.Lemmas.List
/-! # C09 — artifacts are deleted only when unreferenced, and only inside the root

`FileDatastore.emptyTrash` on the model `Artifacts` (plain files shared by several datasets, zip members, direct ingests)
removes an owned artifact exactly when a trashed record names it and no dataset that is still stored refers to it, in every
state a history can reach.  `C09.Path`: a location the datastore accepts lies below its root (model `PathNorm`).
`C09.Translated`: the model's recount is the loop translated from the source (`Gen/TrashPy`). -/
namespace C09
open Artifacts

/-- State invariant of the records / location tables and the datastore root. -/
structure Inv (s : S) : Prop where
  disjoint : ∀ i ∈ s.live, i ∉ s.trash
  consistent : ∀ r ∈ s.recs, ∀ r' ∈ s.recs, r.path = r'.path → r.abs = r'.abs ∧ r.frag.isSome = r'.frag.isSome
  absNoFrag : ∀ r ∈ s.recs, r.abs = true → r.frag = none
  present : ∀ r ∈ s.recs, r.id ∈ s.live → r.abs = false → r.path ∈ s.disk
  known : ∀ r ∈ s.recs, r.id ∈ s.live ∨ r.id ∈ s.trash

theorem inv_init : Inv {} := by
  constructor <;> simp

theorem mem_trashed {s : S} {t : Rec} : t ∈ trashed s ↔ t ∈ s.recs ∧ t.id ∈ s.trash := by
  simp [trashed, List.mem_filter]

theorem mem_liveRecs {s : S} {t : Rec} : t ∈ liveRecs s ↔ t ∈ s.recs ∧ t.id ∈ s.live := by
  simp [liveRecs, List.mem_filter]

theorem mem_doomed {s : S} {p : Nat} :
    p ∈ doomed s ↔ ∃ t ∈ trashed s, t.path ∉ keepPaths s ∧ t.abs = false ∧ t.path = p := by
  simp only [doomed, List.mem_map, List.mem_filter, Bool.and_eq_true, Bool.not_eq_eq_eq_not, Bool.not_true,
    List.contains_eq_mem, decide_eq_false_iff_not, and_assoc]

theorem mem_emptyTrash_disk {s : S} {p : Nat} : p ∈ (emptyTrash s).disk ↔ p ∈ s.disk ∧ p ∉ doomed s := by
  simp [emptyTrash]

/-- The recount: a zip named in the trash is kept when some record of a member is not among the trashed ones. -/
theorem mem_slowKeep {s : S} {p : Nat} : p ∈ slowKeep s ↔
    (∃ t ∈ trashed s, t.frag.isSome = true ∧ t.path = p) ∧
    ∃ r ∈ s.recs, (r.frag.isSome = true ∧ r.path = p) ∧ ∀ t ∈ trashed s, t.path = p → t.id ≠ r.id := by
  fun_cases slowKeep s with
  | case1 =>
    simp only [List.mem_filter, List.mem_map, List.any_eq_true, Bool.and_eq_true, beq_iff_eq, Bool.not_eq_eq_eq_not,
      Bool.not_true, List.any_eq_false, not_and, and_assoc]
  | case2 hno =>
    -- no trashed record has a fragment
    simp only [List.any_eq_true, not_exists, not_and] at hno
    exact ⟨fun hp => (nomatch hp), fun ⟨⟨t, ht, hf, _⟩, _⟩ => absurd hf (hno t ht)⟩

/-- **What `emptyTrash` keeps.** A path that a trashed record names is in the keep set exactly when the record of some dataset
that is still stored names it — whether the bridge's comparison of full keys finds it (plain files) or the recount (zips). -/
theorem trashed_path_kept_iff {s : S} (h : Inv s) {t : Rec} (ht : t ∈ trashed s) :
    t.path ∈ keepPaths s ↔ ∃ r ∈ liveRecs s, r.path = t.path := by
  unfold keepPaths
  rw [List.mem_append, mem_slowKeep]
  constructor
  · rintro (hk | ⟨_, r, hr, ⟨_, hp⟩, hnot⟩)
    · simp only [preserved, List.mem_map, List.mem_filter, List.contains_eq_mem, decide_eq_true_eq] at hk
      obtain ⟨_, ⟨⟨_, r, hr, rfl⟩, _⟩, hp⟩ := hk
      exact ⟨r, hr, hp⟩
    · rcases h.known r hr with hl | htr
      · exact ⟨r, mem_liveRecs.mpr ⟨hr, hl⟩, hp⟩
      · exact absurd rfl (hnot r (mem_trashed.mpr ⟨hr, htr⟩) hp)
  · rintro ⟨r, hr, hp⟩
    obtain ⟨hrm, hl⟩ := mem_liveRecs.mp hr
    have hc := (h.consistent t (mem_trashed.mp ht).1 r hrm hp.symm).2
    cases hf : r.frag with
    | none =>
      -- a plain file: the bridge sees the same full key from the trash and from outside it
      left
      rw [hf, Option.isSome_none, Option.isSome_eq_false_iff, Option.isNone_iff_eq_none] at hc
      simp only [preserved, List.mem_map, List.mem_filter, List.contains_eq_mem, decide_eq_true_eq]
      exact ⟨key t, ⟨⟨⟨t, ht, rfl⟩, r, hr, by simp [key, hp, hc, hf]⟩, by simp [key, hc]⟩, rfl⟩
    | some f =>
      -- a zip: the stored member is a record that no trashed entry cancels
      right
      rw [hf, Option.isSome_some] at hc
      refine ⟨⟨t, ht, hc, rfl⟩, r, hrm, ⟨by simp [hf], hp⟩, fun t' ht' _ hid => ?_⟩
      exact h.disjoint _ hl (hid ▸ (mem_trashed.mp ht').2)

theorem mem_emptyTrash_disk_iff {s : S} (h : Inv s) {p : Nat} :
    p ∈ (emptyTrash s).disk ↔
      p ∈ s.disk ∧ ((∃ r ∈ liveRecs s, r.path = p) ∨ ∀ t ∈ trashed s, t.abs = false → t.path ≠ p) := by
  rw [mem_emptyTrash_disk, mem_doomed]
  refine and_congr_right fun _ => ⟨fun hnd => ?_, ?_⟩
  · by_cases hl : ∃ r ∈ liveRecs s, r.path = p
    · exact Or.inl hl
    · exact Or.inr fun t ht ha hp => hnd ⟨t, ht, fun hk => hl (hp ▸ (trashed_path_kept_iff h ht).mp hk), ha, hp⟩
  · rintro (⟨r, hr, hp⟩ | hno) ⟨t, ht, hk, ha, rfl⟩
    · exact hk ((trashed_path_kept_iff h ht).mpr ⟨r, hr, hp⟩)
    · exact hno t ht ha rfl

/-- **Safety.** Emptying the trash never removes an artifact that a dataset which is still stored
refers to — whatever mixture of plain shared files, zip members and direct ingests the trash holds. -/
theorem emptyTrash_keeps_referenced {s : S} (h : Inv s) {r : Rec} (hr : r ∈ s.recs) (hl : r.id ∈ s.live)
    (hd : r.path ∈ s.disk) : r.path ∈ (emptyTrash s).disk :=
  (mem_emptyTrash_disk_iff h).mpr ⟨hd, Or.inl ⟨r, mem_liveRecs.mpr ⟨hr, hl⟩, rfl⟩⟩

/-- **Precision.** Only artifacts named by a trashed, owned (non-absolute) record are removed. -/
theorem emptyTrash_only_removes_trashed {s : S} {p : Nat} (hd : p ∈ s.disk) (hg : p ∉ (emptyTrash s).disk) :
    ∃ t ∈ s.recs, t.id ∈ s.trash ∧ t.abs = false ∧ t.path = p := by
  obtain ⟨t, ht, _, ha, hp⟩ := mem_doomed.mp (Decidable.not_not.mp fun hn => hg (mem_emptyTrash_disk.mpr ⟨hd, hn⟩))
  exact ⟨t, (mem_trashed.mp ht).1, (mem_trashed.mp ht).2, ha, hp⟩

/-- **No leak.** An owned artifact that only trashed datasets refer to is gone after the emptying. -/
theorem emptyTrash_removes_unreferenced {s : S} (h : Inv s) {t : Rec} (ht : t ∈ s.recs) (htr : t.id ∈ s.trash)
    (ha : t.abs = false) (hnone : ∀ r ∈ s.recs, r.id ∈ s.live → r.path ≠ t.path) :
    t.path ∉ (emptyTrash s).disk := fun hin =>
  ((mem_emptyTrash_disk_iff h).mp hin).2.elim
    (fun ⟨r, hr, hp⟩ => hnone r (mem_liveRecs.mp hr).1 (mem_liveRecs.mp hr).2 hp)
    (fun hno => hno t (mem_trashed.mpr ⟨ht, htr⟩) ha rfl)

/-- Files that absolute URIs point at are never touched, by any operation. -/
theorem ext_untouched (s : S) (op : Op) : (step s op).ext = s.ext := by
  cases op with
  | store ids p k =>
    -- every leaf of `store` is the old state or an update of other fields
    rw [step]
    fun_cases store s ids p k <;> rfl
  | trash ids => rfl
  | emptyTrash => rfl

theorem mem_emptyTrash_recs {s : S} {r : Rec} : r ∈ (emptyTrash s).recs ↔ r ∈ s.recs ∧ r.id ∉ s.trash := by
  simp [emptyTrash]

theorem inv_emptyTrash {s : S} (h : Inv s) : Inv (emptyTrash s) :=
  { disjoint := fun _ _ => List.not_mem_nil
    consistent := fun r hr r' hr' => h.consistent r (mem_emptyTrash_recs.mp hr).1 r' (mem_emptyTrash_recs.mp hr').1
    absNoFrag := fun r hr => h.absNoFrag r (mem_emptyTrash_recs.mp hr).1
    present := fun r hr hl ha =>
      have hr := (mem_emptyTrash_recs.mp hr).1
      emptyTrash_keeps_referenced h hr hl (h.present r hr hl ha)
    known := fun r hr => Or.inl ((h.known r (mem_emptyTrash_recs.mp hr).1).resolve_right (mem_emptyTrash_recs.mp hr).2) }

theorem mem_trash_live {s : S} {ids : List Nat} {i : Nat} : i ∈ (trash s ids).live ↔ i ∈ s.live ∧ i ∉ ids := by
  simp [trash]

theorem mem_trash_trash {s : S} {ids : List Nat} {i : Nat} : i ∈ (trash s ids).trash ↔ i ∈ s.live ∧ i ∈ ids ∨ i ∈ s.trash := by
  simp [trash]

theorem inv_trash {s : S} (h : Inv s) (ids : List Nat) : Inv (trash s ids) :=
  { disjoint := fun i hi ht =>
      (mem_trash_trash.mp ht).elim (fun hc => (mem_trash_live.mp hi).2 hc.2) (h.disjoint i (mem_trash_live.mp hi).1)
    consistent := h.consistent
    absNoFrag := h.absNoFrag
    present := fun r hr hl => h.present r hr (mem_trash_live.mp hl).1
    known := fun r hr => by
      rw [mem_trash_live, mem_trash_trash]
      rcases h.known r hr with hl | ht
      · by_cases hin : r.id ∈ ids
        · exact Or.inr (Or.inl ⟨hl, hin⟩)
        · exact Or.inl ⟨hl, hin⟩
      · exact Or.inr (Or.inr ht) }

/-- Recording new datasets `ids` at one path `p`, by records of one kind (absolute or not `a`, with a fragment or not `z`), keeps
the invariants provided the ids are new and the records already at `p` are of that kind; an owned artifact must be on the new disk. -/
theorem inv_record {s : S} (h : Inv s) {ids : List Nat} {p : Nat} {fr : Nat → Option Nat} {a z : Bool} {disk : List Nat}
    (hz : ∀ i, (fr i).isSome = z) (haz : a = true → z = false)
    (fresh : ∀ i ∈ ids, i ∉ s.live ∧ i ∉ s.trash)
    (hold : ∀ r ∈ s.recs, r.path = p → r.abs = a ∧ r.frag.isSome = z)
    (hsub : ∀ q ∈ s.disk, q ∈ disk) (hp : a = false → p ∈ disk) :
    Inv { s with recs := ids.map (fun i => { id := i, path := p, frag := fr i, abs := a }) ++ s.recs,
                 live := ids ++ s.live, disk := disk } where
  disjoint := List.forall_mem_append.mpr ⟨fun i hi => (fresh i hi).2, h.disjoint⟩
  consistent := List.forall_mem_append.mpr
    ⟨List.forall_mem_map.mpr fun i _ => List.forall_mem_append.mpr
      ⟨List.forall_mem_map.mpr fun j _ _ => ⟨rfl, (hz i).trans (hz j).symm⟩,
       fun r' hr' hpp => ⟨(hold r' hr' hpp.symm).1.symm, (hz i).trans (hold r' hr' hpp.symm).2.symm⟩⟩,
     fun r hr => List.forall_mem_append.mpr
      ⟨List.forall_mem_map.mpr fun j _ hpp => ⟨(hold r hr hpp).1, (hold r hr hpp).2.trans (hz j).symm⟩, h.consistent r hr⟩⟩
  absNoFrag := List.forall_mem_append.mpr
    ⟨List.forall_mem_map.mpr fun i _ ha => Option.isNone_iff_eq_none.mp (Option.isSome_eq_false_iff.mp ((hz i).trans (haz ha))),
     h.absNoFrag⟩
  present := List.forall_mem_append.mpr
    ⟨List.forall_mem_map.mpr fun _ _ _ ha => hp ha,
     fun r hr hl ha => (List.mem_append.mp hl).elim
      -- an id that is new has no record yet
      (fun hl => ((h.known r hr).elim (fresh _ hl).1 (fresh _ hl).2).elim)
      (fun hl => hsub _ (h.present r hr hl ha))⟩
  known := List.forall_mem_append.mpr
    ⟨List.forall_mem_map.mpr fun _ hi => Or.inl (List.mem_append_left _ hi),
     fun r hr => (h.known r hr).imp (List.mem_append_right _) id⟩

theorem inv_store {s : S} (h : Inv s) (ids : List Nat) (p : Nat) (k : Kind) : Inv (store s ids p k) := by
  fun_cases store s ids p k with
  | case1 | case2 | case3 => exact h    -- refused
  | case4 hfresh hfree _ | case5 hfresh hfree _ =>
    -- an owned artifact goes to a path no record names
    have hfree : (∀ x ∈ s.recs, ¬x.path = p) ∧ p ∉ s.disk := by simpa using hfree
    exact inv_record h (fun _ => rfl) nofun (by simpa [not_or] using hfresh) (fun r hr hc => absurd hc (hfree.1 r hr))
      (fun _ => List.mem_cons_of_mem _) (fun _ => List.mem_cons_self)
  | case6 hfresh _ hdir =>
    -- a direct ingest may share its path with other direct ingests only
    have hdir : ∀ x ∈ s.recs, x.path = p → x.abs = true := by simpa using hdir
    exact inv_record h (fun _ => rfl) (fun _ => rfl) (by simpa [not_or] using hfresh)
      (fun r hr hc => ⟨hdir r hr hc, by rw [h.absNoFrag r hr (hdir r hr hc)]⟩) (fun _ hq => hq) nofun

theorem inv_step {s : S} (h : Inv s) (op : Op) : Inv (step s op) := by
  cases op with
  | store ids p k => exact inv_store h ids p k
  | trash ids => exact inv_trash h ids
  | emptyTrash => exact inv_emptyTrash h

/-- The invariant holds after **every** history of put / ingest (plain, shared, zip, direct) /
trash / emptyTrash. -/
theorem inv_history (ops : List Op) {s : S} (h : Inv s) : Inv (ops.foldl step s) :=
  List.foldlRecOn ops step h fun _ h op _ => inv_step h op

/-- **Datasets sharing an artifact survive the removal of their siblings**: after any history, every
dataset that is still stored has every owned artifact it refers to on disk. -/
theorem stored_artifacts_present (ops : List Op) (r : Rec)
    (hr : r ∈ (ops.foldl step {}).recs) (hl : r.id ∈ (ops.foldl step {}).live) (ha : r.abs = false) :
    r.path ∈ (ops.foldl step {}).disk :=
  (inv_history ops inv_init).present r hr hl ha

/-- Non-vacuity: a zip with two members and a plain file shared by two datasets; one member and one
sharer are pruned in a single trash emptying — both artifacts stay, and go once the siblings follow. -/
def demo : List Op := [.store [1, 2] 10 .zip, .store [3, 4] 11 .plain, .store [5] 12 .direct, .trash [1, 3, 5], .emptyTrash]

example : (demo.foldl step {}).disk = [11, 10] ∧ (demo.foldl step {}).live = [4, 2] := by decide

example : ((demo ++ [Op.trash [2, 4], Op.emptyTrash]).foldl step {}).disk = [] := by decide

end C09

/-! ## Containment of computed paths (model `PathNorm`) -/
namespace C09.Path
open PathNorm

/-- Shape of `normpath`'s stack: ordinary names on top of a (possibly empty) run of `..`. -/
def Shape (isAbs : Bool) (stack : List String) : Prop :=
  ∃ (names : List String) (ups : Nat), stack = names ++ List.replicate ups ".." ∧
    (∀ n ∈ names, n ≠ ".." ∧ n ≠ "" ∧ n ≠ ".") ∧ (isAbs = true → ups = 0)

theorem shape_step (isAbs : Bool) (stack : List String) (c : String) (h : Shape isAbs stack) :
    Shape isAbs (stepc isAbs stack c) := by
  obtain ⟨names, ups, hs, hn, ha⟩ := h
  fun_cases stepc isAbs stack c with
  | case1 => exact ⟨names, ups, hs, hn, ha⟩           -- `""` or `.` is skipped
  | case2 stack h1 h2 =>                               -- a name is pushed
    exact ⟨c :: names, ups, congrArg (c :: ·) hs,
      List.forall_mem_cons.mpr ⟨⟨h2, fun e => h1 (.inl e), fun e => h1 (.inr e)⟩, hn⟩, ha⟩
  | case3 => exact ⟨[], 0, rfl, nofun, fun _ => rfl⟩  -- `..` at the root stays there
  | case4 _ _ hrel => exact ⟨[], 1, rfl, nofun, fun e => absurd e hrel⟩  -- a relative path keeps a leading `..`
  | case5 _ _ rest =>
    -- `..` on top of `..`: there is no name on the stack, and the path is relative
    cases names with
    | cons n _ => exact absurd (List.cons.inj hs).1.symm (hn n List.mem_cons_self).1
    | nil => exact ⟨[], ups + 1, congrArg (".." :: ·) hs, nofun, fun e => by rw [ha e] at hs; cases hs⟩
  | case6 _ _ top rest htop =>
    -- `..` takes a name off
    cases names with
    | cons n ns => exact ⟨ns, ups, (List.cons.inj hs).2, fun m hm => hn m (List.mem_cons_of_mem _ hm), ha⟩
    | nil =>
      cases ups with
      | zero => cases hs
      | succ k => exact absurd (List.cons.inj hs).1 htop

/-- **`normpath` output is `..`* followed by ordinary names**; an absolute path has no `..` at all. -/
theorem normComps_shape (isAbs : Bool) (comps : List String) :
    ∃ (ups : Nat) (names : List String), normComps isAbs comps = List.replicate ups ".." ++ names ∧
      (∀ n ∈ names, n ≠ ".." ∧ n ≠ "" ∧ n ≠ ".") ∧ (isAbs = true → ups = 0) := by
  obtain ⟨names, ups, hs, hn, ha⟩ : Shape isAbs (comps.foldl (stepc isAbs) []) :=
    List.foldlRecOn comps _ ⟨[], 0, rfl, nofun, fun _ => rfl⟩ fun _ h c _ => shape_step isAbs _ c h
  refine ⟨ups, names.reverse, ?_, fun n hm => hn n (List.mem_reverse.mp hm), ha⟩
  simp [normComps, hs]

theorem normComps_abs (comps : List String) : ∀ c ∈ normComps true comps, c ≠ ".." ∧ c ≠ "" ∧ c ≠ "." := by
  obtain ⟨ups, names, he, hn, hz⟩ := normComps_shape true comps
  rw [he, hz rfl, List.replicate_zero, List.nil_append]
  exact hn

theorem place_eq_ok {root : List String} {run : String} {dirs files rest : List String} :
    place root run dirs files = .ok rest ↔ normComps true (root ++ format run dirs files) = root ++ rest := by
  simp only [place]
  split
  · rename_i hpre
    obtain ⟨t, ht⟩ := List.isPrefixOf_iff_prefix.mp hpre
    rw [← ht, List.drop_left, Except.ok.injEq, List.append_cancel_left_eq]
  · rename_i hpre
    exact ⟨nofun, fun he => absurd (List.isPrefixOf_iff_prefix.mpr ⟨rest, he.symm⟩) hpre⟩

/-- **Containment.** A placement that the datastore accepts is *literally* the root followed by
components none of which is `..`, `.` or empty — whatever strings went into the run, data-ID and
dataset-type fields, and also when `..` components step out of the root and back in. -/
theorem accepted_is_contained (root : List String) (run : String) (dirs files : List String) (rest : List String)
    (h : place root run dirs files = .ok rest) :
    normComps true (root ++ format run dirs files) = root ++ rest ∧ ∀ c ∈ rest, c ≠ ".." ∧ c ≠ "" ∧ c ≠ "." :=
  have he := place_eq_ok.mp h
  ⟨he, fun c hc => normComps_abs _ c (he ▸ List.mem_append_right _ hc)⟩

/-- …and a refusal happens only when the normalised location is not below the root. -/
theorem refused_outside (root : List String) (run : String) (dirs files : List String)
    (h : place root run dirs files = .error ()) :
    ¬ root <+: normComps true (root ++ format run dirs files) := by
  rintro ⟨t, ht⟩
  rw [place_eq_ok.mpr ht.symm] at h
  cases h

/-! Non-vacuity on components (string *operations* do not reduce in the kernel; whole-string cases
are exercised by the correspondence). -/
example : normComps false ["a", "..", "..", "b", "", ".", "f"] = ["..", "b", "f"] := by decide
example : normComps true (["tmp", "repo"] ++ ["..", "repo", "dt", "f"]) = ["tmp", "repo", "dt", "f"] := by decide
example : normComps true (["tmp", "repo"] ++ ["..", "repo2", "dt", "f"]) = ["tmp", "repo2", "dt", "f"] := by decide
example : normComps true ["", "..", "a", "b", "..", "f"] = ["a", "f"] := by decide

end C09.Path

/-! ### The recount of `FileDatastore.emptyTrash` as translated from the source on every run (`Gen/TrashPy.lean`, `translate/gen_trash.py`) -/
namespace C09.Translated
open Artifacts

/-- `if ref.id in path_map[path]: path_map[path].remove(ref.id)` -/
def takeOut (m : PM) (q r : Nat) : PM := if (pmGet m q).contains r then pmSet m q ((pmGet m q).filter (· != r)) else m

/-- `if not path_map[path]: del path_map[path]` -/
def dropEmpty (m : PM) (q : Nat) : PM := if (pmGet m q).isEmpty then pmDel m q else m

/-- one iteration of the loop, as a function (what the fold of `Gen.TrashPy.recount` applies) -/
def iter (m : PM) (e : Nat × Nat) : PM := dropEmpty (takeOut m e.2 e.1) e.2

theorem recount_eq (T : List (Nat × Nat)) (m : PM) (b : Bool) (k : List Nat) :
    Gen.TrashPy.recount T m b k = (if b then k ++ pmKeys (T.foldl iter m) else pmKeys (T.foldl iter m)) := by
  -- whatever function the translated loop folds with, if it is `iter` pointwise
  have key : ∀ F : PM → Nat × Nat → PM, (∀ pm e, F pm e = iter pm e) →
      (if b then k ++ pmKeys (T.foldl F m) else pmKeys (T.foldl F m)) =
        (if b then k ++ pmKeys (T.foldl iter m) else pmKeys (T.foldl iter m)) :=
    fun F hF => by rw [funext fun pm => funext (hF pm)]
  refine key _ fun pm ⟨r, q⟩ => ?_
  simp only [iter, takeOut, dropEmpty]
  split <;> rfl

/-- the map is as `_refs_associated_with_artifacts` builds it: no key with an empty set -/
def Good (m : PM) : Prop := ∀ p, p ∈ m.keys → pmGet m p ≠ []

theorem pmGet_of_mem {m : PM} {p : Nat} (h : p ∈ m.keys) : pmGet m p = m.get p := by
  simp [pmGet, h]

theorem pmGet_of_not_mem {m : PM} {p : Nat} (h : p ∉ m.keys) : pmGet m p = [] := by
  simp [pmGet, h]

theorem mem_keys_of_mem {m : PM} {p i : Nat} (h : i ∈ pmGet m p) : p ∈ m.keys :=
  Decidable.of_not_not fun hk => List.not_mem_nil (pmGet_of_not_mem hk ▸ h)

theorem pmGet_pmSet {m : PM} {q : Nat} {v : List Nat} (hq : q ∈ m.keys) (p : Nat) :
    pmGet (pmSet m q v) p = if p = q then v else pmGet m p := by
  by_cases hpq : p = q <;> simp [pmGet, pmSet, hq, hpq]

theorem pmGet_pmDel (m : PM) (q p : Nat) : pmGet (pmDel m q) p = if p = q then [] else pmGet m p := by
  by_cases hpq : p = q <;> simp [pmGet, pmDel, hpq]

theorem pmGet_takeOut (m : PM) (q r p : Nat) :
    pmGet (takeOut m q r) p = if p = q then (pmGet m q).filter (· != r) else pmGet m p := by
  fun_cases takeOut m q r with
  | case1 hc => rw [pmGet_pmSet (mem_keys_of_mem (List.contains_iff_mem.mp hc))]
  | case2 hc =>
    -- `r` is not there: the filter changes nothing
    split
    · rename_i hpq
      rw [hpq, List.filter_eq_self.mpr fun a ha => bne_iff_ne.mpr fun e => hc (by simpa [e] using ha)]
    · rfl

theorem keys_takeOut (m : PM) (q r : Nat) : (takeOut m q r).keys = m.keys := by
  fun_cases takeOut m q r with
  | case1 hc => simp [pmSet, mem_keys_of_mem (List.contains_iff_mem.mp hc)]
  | case2 => rfl

theorem pmGet_dropEmpty (m : PM) (q p : Nat) : pmGet (dropEmpty m q) p = pmGet m p := by
  fun_cases dropEmpty m q with
  | case1 he =>
    rw [pmGet_pmDel]
    split
    · rename_i hpq
      rw [hpq, List.isEmpty_iff.mp he]
    · rfl
  | case2 => rfl

theorem mem_keys_dropEmpty {m : PM} {q p : Nat} : p ∈ (dropEmpty m q).keys → p ∈ m.keys ∧ (p = q → pmGet m q ≠ []) := by
  fun_cases dropEmpty m q with
  | case1 =>
    intro hp
    simp only [pmDel, List.mem_filter, bne_iff_ne] at hp
    exact ⟨hp.1, fun e => absurd e hp.2⟩
  | case2 he => exact fun hp => ⟨hp, fun _ h0 => he (List.isEmpty_iff.mpr h0)⟩

theorem mem_iter_get {m : PM} {e : Nat × Nat} {p i : Nat} : i ∈ pmGet (iter m e) p ↔ i ∈ pmGet m p ∧ (i, p) ≠ e := by
  obtain ⟨r, q⟩ := e
  rw [iter, pmGet_dropEmpty, pmGet_takeOut]
  by_cases hpq : p = q <;> simp [hpq]

theorem iter_good {m : PM} {e : Nat × Nat} (hg : Good m) : Good (iter m e) := by
  intro p hp
  obtain ⟨hk, hne⟩ := mem_keys_dropEmpty hp
  rw [iter, pmGet_dropEmpty]
  by_cases hpq : p = e.2
  · rw [hpq]
    exact hne hpq
  · rw [pmGet_takeOut, if_neg hpq]
    rw [keys_takeOut] at hk
    exact hg p hk

theorem Good.mem_keys_iff {m : PM} (hg : Good m) {p : Nat} : p ∈ m.keys ↔ ∃ i, i ∈ pmGet m p :=
  ⟨fun hp => List.exists_mem_of_ne_nil _ (hg p hp), fun ⟨_, hi⟩ => mem_keys_of_mem hi⟩

theorem fold_spec : ∀ (T : List (Nat × Nat)) (m : PM), Good m →
    Good (T.foldl iter m) ∧ ∀ p i, i ∈ pmGet (T.foldl iter m) p ↔ i ∈ pmGet m p ∧ (i, p) ∉ T
  | [], _, hg => ⟨hg, fun p i => by simp⟩
  | e :: T, m, hg => by
    obtain ⟨h1, h2⟩ := fold_spec T (iter m e) (iter_good hg)
    refine ⟨h1, fun p i => ?_⟩
    rw [List.foldl_cons, h2, mem_iter_get, List.mem_cons, not_or, and_assoc]

/-- **What the recount keeps**: an artifact stays in `artifacts_to_keep` exactly when some dataset recorded at it is not among the
trashed ones — for every list of trashed entries (also with repetitions, in any order) and every map without empty entries. -/
theorem recount_keeps_iff (T : List (Nat × Nat)) (m : PM) (hg : Good m) (p : Nat) :
    p ∈ Gen.TrashPy.recount T m false [] ↔ ∃ i ∈ pmGet m p, (i, p) ∉ T := by
  obtain ⟨h1, h2⟩ := fold_spec T m hg
  rw [recount_eq, if_neg Bool.false_ne_true, pmKeys, h1.mem_keys_iff]
  simp only [h2]

/-- with the bridge's answer merged in: what the bridge said stays, what the recount keeps is added -/
theorem recount_merge (T : List (Nat × Nat)) (m : PM) (k : List Nat) (p : Nat) :
    p ∈ Gen.TrashPy.recount T m true k ↔ p ∈ k ∨ p ∈ Gen.TrashPy.recount T m false [] := by
  simp [recount_eq]

/-- the map `_refs_associated_with_artifacts` builds for the model state `s`: every artifact that has records with a fragment, with
the datasets recorded at it -/
def pmOf (s : S) : PM :=
  { keys := (s.recs.filter (fun r => r.frag.isSome)).map (·.path),
    get := fun p => (s.recs.filter (fun r => r.frag.isSome && r.path == p)).map (·.id) }

theorem mem_pmGet_pmOf {s : S} {p i : Nat} :
    i ∈ pmGet (pmOf s) p ↔ ∃ r ∈ s.recs, (r.frag.isSome = true ∧ r.path = p) ∧ r.id = i := by
  by_cases hk : p ∈ (pmOf s).keys
  · rw [pmGet_of_mem hk]
    simp [pmOf, and_assoc]
  · rw [pmGet_of_not_mem hk]
    refine ⟨fun h => (nomatch h), fun ⟨r, hr, ⟨hf, hp⟩, _⟩ => absurd ?_ hk⟩
    exact List.mem_map.mpr ⟨r, List.mem_filter.mpr ⟨hr, hf⟩, hp⟩

theorem pmOf_good (s : S) : Good (pmOf s) := by
  intro p hp
  obtain ⟨r, hr, hrp⟩ := List.mem_map.mp hp
  exact List.ne_nil_of_mem (mem_pmGet_pmOf.mpr ⟨r, (List.mem_filter.mp hr).1, ⟨(List.mem_filter.mp hr).2, hrp⟩, rfl⟩)

/-- **The hand-written model's `slowKeep`** (which `emptyTrash_keeps_referenced` and the other C09 theorems are about) **is the
translated recount** applied to the trashed records and the map of the state. -/
theorem slowKeep_is_recount (s : S) (hfrag : (trashed s).any (fun r => r.frag.isSome) = true) (p : Nat) :
    p ∈ slowKeep s ↔
      p ∈ ((trashed s).filter (fun r => r.frag.isSome)).map (·.path) ∧
      p ∈ Gen.TrashPy.recount ((trashed s).map fun t => (t.id, t.path)) (pmOf s) false [] := by
  rw [recount_keeps_iff _ _ (pmOf_good s), mem_slowKeep]
  refine and_congr (by simp only [List.mem_map, List.mem_filter, and_assoc]) ⟨?_, ?_⟩
  · rintro ⟨r, hr, hfp, hnot⟩
    refine ⟨r.id, mem_pmGet_pmOf.mpr ⟨r, hr, hfp, rfl⟩, fun hm => ?_⟩
    obtain ⟨t, ht, he⟩ := List.mem_map.mp hm
    exact hnot t ht (congrArg Prod.snd he) (congrArg Prod.fst he)
  · rintro ⟨i, hi, hnt⟩
    obtain ⟨r, hr, hfp, rfl⟩ := mem_pmGet_pmOf.mp hi
    exact ⟨r, hr, hfp, fun t ht htp hid => hnt (List.mem_map.mpr ⟨t, ht, by rw [hid, htp]⟩)⟩

/-- non-vacuity: a zip (path 7) holds datasets 1, 2, 3; 1 and 2 are trashed (2 listed twice): the zip is kept; path 8, whose only
dataset is trashed, is not -/
example : Gen.TrashPy.recount [(1, 7), (2, 7), (2, 7), (5, 8)]
    ⟨[7, 8], fun p => if p = 7 then [1, 2, 3] else [5]⟩ false [] = [7] := by decide

end C09.Translated
