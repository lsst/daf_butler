import ButlerModel.Gen.TimespanPy
import ButlerModel.Gen.TimespanSql
import ButlerModel.Lemmas.List
import ButlerModel.Lemmas.Sql3
/-! # C11 — Timespans are half-open sets of integer nanoseconds, identically in Python and SQL

Every theorem here is about the definitions **generated** from `/repo`'s current
`_timespan.py` and `timespan_database_representation.py` (`Gen.TsPy.*`, `Gen.TsSql.*`).  The conversion between
astropy times and nanoseconds is not modelled: a `Bound.time` carries the nanoseconds `astropy_to_nsec` returned. -/
namespace C11
open Gen Gen.TsPy

/-- The single canonical empty timespan. -/
def empty : TS := ⟨maxNsec, minNsec⟩

/-- Every value the public constructor can produce (`ctor_wf`, `ctorNsec_wf`): the canonical
empty value, or `minNsec ≤ b < e ≤ maxNsec`.  Stated arithmetically so `omega`/`grind` see it. -/
def WF (t : TS) : Prop :=
  (t.b = maxNsec ∧ t.e = minNsec) ∨ (minNsec ≤ t.b ∧ t.b < t.e ∧ t.e ≤ maxNsec)

instance (t : TS) : Decidable (WF t) := by unfold WF; infer_instance

/-- Set semantics: the nanoseconds a timespan denotes. -/
def Mem (x : Int) (t : TS) : Prop := t.b ≤ x ∧ x < t.e

instance (x : Int) (t : TS) : Decidable (Mem x t) := by unfold Mem; infer_instance

theorem consts : minNsec < maxNsec := by decide

theorem ctorNsec_wf (p : Int × Int) (h1 : minNsec ≤ p.1) (h2 : p.2 ≤ maxNsec) : WF (ctorNsec p) := by
  have := consts
  grind [ctorNsec, WF]

theorem ctorNsec_mem (p : Int × Int) (x : Int) : Mem x (ctorNsec p) ↔ (p.1 ≤ x ∧ x < p.2) := by
  have := consts
  grind [ctorNsec, Mem]

/-- `Timespan.__reduce__` / pydantic / SQL `extract` all rebuild a timespan through
`_nsec=self.nsec`; for every constructible value that is the identity. -/
theorem reduce_roundtrip (t : TS) (h : WF t) : ctorNsec (t.b, t.e) = t := by
  have := consts
  obtain ⟨b, e⟩ := t
  grind [ctorNsec, WF]

/-- A bound is admissible when `astropy_to_nsec` clamped it into `[minNsec, maxNsec]`. -/
def BoundOk : Bound → Prop
  | .time n _ _ => minNsec ≤ n ∧ n ≤ maxNsec
  | _ => True

/-- `begin_nsec` and `end_nsec` as `__init__` computes them from its two arguments. -/
def lower : Bound → Option Int
  | .none => some minNsec | .empty => some maxNsec | .time n _ _ => some n | .other => none

def upper : Bound → Option Int
  | .none => some maxNsec | .empty => some minNsec | .time n _ _ => some n | .other => none

/-- `Timespan.__init__` from the point where `begin_nsec = x` and `end_nsec = y` are known.  The
source has this block once; the translator inlined it, as it stands here, under each of the nine
ways of getting there (the other seven of the sixteen pairs of bounds are a `TypeError`), which is why `ctor_eq` is `rfl`
case by case. -/
def ctorTail (b e : Bound) (x y : Int) (pad : Bool) : Except String TS :=
  let fin (p : Int × Int) : Except String TS :=
    if decide (p.1 ≥ p.2) then .ok ⟨maxNsec, minNsec⟩ else .ok ⟨p.1, p.2⟩
  if decide (x = y) then
    if (decide (x = maxNsec) || decide (y = minNsec)) then
      if b.isEmptyTag then .error "TypeError"
      else if (!b.isNone && b.ltEpoch) then .error "ValueError"
      else if e.isEmptyTag then .error "TypeError"
      else if (!e.isNone && e.gtMax) then .error "ValueError"
      else .error "ValueError"
    else if pad then
      if decide (y + 1 = maxNsec) then .error "ValueError" else fin (x, y + 1)
    else fin (x, y)
  else fin (x, y)

theorem ctor_eq (b e : Bound) (pad : Bool) :
    ctor b e pad = match lower b, upper e with
      | some x, some y => ctorTail b e x y pad
      | _, _ => .error "TypeError" := by
  cases b <;> cases e <;> rfl

theorem ctorTail_ok {b e : Bound} {x y : Int} {pad : Bool} {t : TS} (h : ctorTail b e x y pad = .ok t) :
    (x = y → x ≠ maxNsec ∧ y ≠ minNsec) ∧ t = ctorNsec (x, if x = y ∧ pad = true then y + 1 else y) := by
  grind [ctorTail, ctorNsec]

/-- Every successful construction goes through `ctorNsec`: all that is left of the case analysis is
which two nanoseconds it is given. -/
theorem ctor_ok {b e : Bound} {pad : Bool} {t : TS} (h : ctor b e pad = .ok t) :
    ∃ x y, lower b = some x ∧ upper e = some y ∧ (x = y → x ≠ maxNsec ∧ y ≠ minNsec) ∧
      t = ctorNsec (x, if x = y ∧ pad = true then y + 1 else y) := by
  rw [ctor_eq] at h
  split at h
  · exact ⟨_, _, ‹_›, ‹_›, ctorTail_ok h⟩
  · cases h

theorem nsec_ok {b : Bound} {x : Int} (hb : BoundOk b) (h : lower b = some x ∨ upper b = some x) :
    minNsec ≤ x ∧ x ≤ maxNsec := by
  cases b with
  | time => rcases h with h | h <;> cases h <;> exact hb
  | other => rcases h with h | h <;> cases h
  | none | empty => rcases h with h | h <;> cases h <;> decide

theorem ctorNsec_empty (p : Int × Int) (h : p.2 ≤ p.1) : ctorNsec p = empty := by
  simp [ctorNsec, empty, h]

/-- The public constructor only produces well-formed values (for every combination of
`None` / `EMPTY` / time bounds and both `padInstantaneous` settings). -/
theorem ctor_wf (b e : Bound) (pad : Bool) (t : TS) (hb : BoundOk b) (he : BoundOk e)
    (h : ctor b e pad = .ok t) : WF t := by
  obtain ⟨x, y, hx, hy, hne, rfl⟩ := ctor_ok h
  have := nsec_ok hb (.inl hx)
  have := nsec_ok he (.inr hy)
  apply ctorNsec_wf <;> grind

/-- `Timespan.EMPTY` as either bound always yields the canonical empty timespan. -/
theorem ctor_empty_left (e : Bound) (pad : Bool) (t : TS) (he : BoundOk e)
    (h : ctor .empty e pad = .ok t) : t = empty := by
  obtain ⟨x, y, hx, hy, hne, rfl⟩ := ctor_ok h
  cases hx
  have := nsec_ok he (.inr hy)
  apply ctorNsec_empty
  grind

theorem ctor_empty_right (b : Bound) (pad : Bool) (t : TS) (hb : BoundOk b)
    (h : ctor b .empty pad = .ok t) : t = empty := by
  obtain ⟨x, y, hx, hy, hne, rfl⟩ := ctor_ok h
  cases hy
  have := nsec_ok hb (.inl hx)
  apply ctorNsec_empty
  grind

/-- Finite bounds `b < e` are kept exactly; `b = e` pads by one nanosecond iff asked to. -/
theorem ctor_finite (x y : Int) (f1 f2 f3 f4 pad : Bool) (t : TS)
    (hx : minNsec ≤ x ∧ x ≤ maxNsec) (hy : minNsec ≤ y ∧ y ≤ maxNsec)
    (h : ctor (.time x f1 f2) (.time y f3 f4) pad = .ok t) :
    (x < y → t = ⟨x, y⟩) ∧ (x > y → t = empty) ∧ (x = y → pad = true → t = ⟨x, x + 1⟩) ∧
    (x = y → pad = false → t = empty) := by
  obtain ⟨_, _, hx', hy', -, rfl⟩ := ctor_ok h
  cases hx'
  cases hy'
  grind [ctorNsec, empty]

theorem exists_mem_iff (t : TS) : (∃ x, Mem x t) ↔ t.b < t.e :=
  ⟨fun ⟨_, h1, h2⟩ => Int.lt_of_le_of_lt h1 h2, fun h => ⟨t.b, Int.le_refl _, h⟩⟩

theorem forall_mem_lt_iff (t : TS) (n : Int) : (∀ x, Mem x t → x < n) ↔ (t.b < t.e → t.e ≤ n) := by
  unfold Mem
  exact ⟨fun h hlt => by have := h (t.e - 1) (by omega); omega, fun h x hx => by omega⟩

theorem forall_mem_gt_iff (t : TS) (n : Int) : (∀ x, Mem x t → x > n) ↔ (t.b < t.e → n < t.b) := by
  unfold Mem
  exact ⟨fun h hlt => h t.b (by omega), fun h x hx => by omega⟩

theorem isEmpty_iff (t : TS) (h : WF t) : isEmpty t = true ↔ ∀ x, ¬ Mem x t := by
  rw [← not_exists, exists_mem_iff, isEmpty, decide_eq_true_eq, Int.not_lt]

theorem isEmpty_iff_eq (t : TS) (h : WF t) : isEmpty t = true ↔ t = empty := by
  have := consts
  obtain ⟨b, e⟩ := t
  simp only [isEmpty, WF, empty, TS.mk.injEq, decide_eq_true_eq] at *
  omega

theorem containsT_iff (t : TS) (x : Int) : containsT t x = true ↔ Mem x t := by
  unfold containsT Mem
  simp

theorem overlapsT_iff (t : TS) (x : Int) : overlapsT t x = true ↔ Mem x t :=
  containsT_iff t x

theorem overlaps_iff (a b : TS) (ha : WF a) (hb : WF b) :
    overlaps a b = true ↔ ∃ x, Mem x a ∧ Mem x b := by
  have := consts
  unfold overlaps Mem WF at *
  simp only [Bool.and_eq_true, decide_eq_true_eq]
  constructor
  · intro h; refine ⟨max a.b b.b, ?_⟩; omega
  · rintro ⟨x, h1, h2⟩; omega

theorem contains_iff (a b : TS) (ha : WF a) (hb : WF b) :
    contains a b = true ↔ ∀ x, Mem x b → Mem x a := by
  have := consts
  unfold contains Mem WF at *
  simp only [Bool.and_eq_true, decide_eq_true_eq]
  constructor
  · intro h x hx; omega
  · intro h
    have h1 := h b.b
    have h2 := h (b.e - 1)
    omega

theorem lt_iff (a b : TS) (ha : WF a) (hb : WF b) :
    lt a b = true ↔ ((∃ x, Mem x a) ∧ (∃ y, Mem y b) ∧ ∀ x y, Mem x a → Mem y b → x < y) := by
  have := consts
  rw [exists_mem_iff, exists_mem_iff]
  unfold TsPy.lt Mem WF at *
  simp only [Bool.and_eq_true, decide_eq_true_eq]
  constructor
  · intro h
    exact ⟨by omega, by omega, fun x y hx hy => by omega⟩
  · rintro ⟨h1, h2, h⟩
    have := h (a.e - 1) b.b (by omega) (by omega)
    omega

theorem gt_iff (a b : TS) (ha : WF a) (hb : WF b) :
    gt a b = true ↔ ((∃ x, Mem x a) ∧ (∃ y, Mem y b) ∧ ∀ x y, Mem x a → Mem y b → x > y) := by
  -- the generated `__gt__` is, by definition, `__lt__` with the operands swapped
  show TsPy.lt b a = true ↔ _
  rw [lt_iff b a hb ha]
  exact ⟨fun ⟨h1, h2, h⟩ => ⟨h2, h1, fun x y hx hy => h y x hy hx⟩,
    fun ⟨h1, h2, h⟩ => ⟨h2, h1, fun x y hx hy => h y x hy hx⟩⟩

/-- `ts < t` for an instant `t` (already clamped into the supported range). -/
theorem ltT_iff (a : TS) (n : Int) (ha : WF a) (hn : minNsec ≤ n ∧ n ≤ maxNsec) :
    ltT a n = true ↔ ((∃ x, Mem x a) ∧ ∀ x, Mem x a → x < n) := by
  have := consts
  rw [exists_mem_iff, forall_mem_lt_iff]
  unfold ltT WF at *
  simp only [Bool.and_eq_true, decide_eq_true_eq]
  omega

theorem gtT_iff (a : TS) (n : Int) (ha : WF a) (hn : minNsec ≤ n ∧ n ≤ maxNsec) :
    gtT a n = true ↔ ((∃ x, Mem x a) ∧ ∀ x, Mem x a → x > n) := by
  have := consts
  rw [exists_mem_iff, forall_mem_gt_iff]
  unfold gtT WF at *
  simp only [Bool.and_eq_true, decide_eq_true_eq]
  omega

/-- Equality is set equality: in particular there is a single empty value. -/
theorem eq_iff (a b : TS) (ha : WF a) (hb : WF b) :
    TsPy.eq a b = true ↔ ∀ x, Mem x a ↔ Mem x b := by
  have h : TsPy.eq a b = true ↔ contains a b = true ∧ contains b a = true := by
    obtain ⟨ab, ae⟩ := a
    obtain ⟨bb, be⟩ := b
    simp only [TsPy.eq, contains, Bool.and_eq_true, decide_eq_true_eq, TS.mk.injEq]
    omega
  rw [h, contains_iff a b ha hb, contains_iff b a hb ha]
  exact ⟨fun h x => ⟨h.2 x, h.1 x⟩, fun h => ⟨fun x => (h x).2, fun x => (h x).1⟩⟩

/-- Equal timespans have equal hash keys (`hash(self.nsec)`): equality *is* equality of `nsec`. -/
theorem hash_respects_eq (a b : TS) (h : TsPy.eq a b = true) : (a.b, a.e) = (b.b, b.e) :=
  congrArg (fun t => (t.b, t.e)) (of_decide_eq_true h)

theorem makeEmpty_eq : makeEmpty = empty :=
  ctorNsec_empty (maxNsec, minNsec) (Int.le_of_lt consts)

/-- n-ary intersection denotes the intersection of the sets (any number of operands): `max` is
below `x` iff every lower bound is, `min` above `x` iff every upper bound is. -/
theorem intersection_mem (a : TS) (args : List TS) (x : Int) :
    Mem x (intersection a args) ↔ (Mem x a ∧ ∀ t ∈ args, Mem x t) := by
  unfold intersection
  split
  · simp_all
  · rw [ctorNsec_mem]
    simp only [Mem, List.singleton_append, Py.maxL, Py.minL, Py.foldl_max_le_iff, Py.lt_foldl_min_iff,
      List.forall_mem_map]
    exact ⟨fun ⟨⟨h1, h2⟩, h3, h4⟩ => ⟨⟨h1, h3⟩, fun t ht => ⟨h2 t ht, h4 t ht⟩⟩,
      fun ⟨⟨h1, h3⟩, h⟩ => ⟨⟨h1, fun t ht => (h t ht).1⟩, h3, fun t ht => (h t ht).2⟩⟩

theorem intersection_wf (a : TS) (args : List TS) (ha : WF a) : WF (intersection a args) := by
  unfold intersection
  split
  · exact ha
  · have h1 := ((Py.foldl_max_le_iff (args.map (·.b)) a.b _).mp (Int.le_refl _)).1
    have h2 := ((Py.le_foldl_min_iff (args.map (·.e)) a.e _).mp (Int.le_refl _)).1
    have := consts
    unfold WF at ha
    apply ctorNsec_wf <;> simp only [List.singleton_append, Py.maxL, Py.minL] <;> omega

theorem intersection2 (a b : TS) :
    intersection a [b] = ctorNsec (max a.b b.b, min a.e b.e) := by
  unfold intersection Py.maxL Py.minL
  simp

/-- Closed form of `difference`: all of `a` if the two are disjoint, otherwise what of `a` lies
before `b` and what lies after it, each kept if there is any.  It holds of any two pairs of
nanoseconds; constructibility only matters for what the pieces are (`difference_piece`). -/
theorem difference_closed (a b : TS) :
    difference a b =
      if min a.e b.e ≤ max a.b b.b then [a]
      else [(⟨a.b, b.b⟩ : TS), ⟨b.e, a.e⟩].filter (fun p => !isEmpty p) := by
  have hc := consts
  obtain ⟨ab, ae⟩ := a
  obtain ⟨bb, be⟩ := b
  unfold difference
  rw [intersection2]
  grind [ctorNsec, isEmpty]

theorem exists_mem_difference (a b : TS) (x : Int) :
    (∃ p ∈ difference a b, Mem x p) ↔ (Mem x a ∧ ¬ Mem x b) := by
  rw [difference_closed a b]
  split
  · simp only [List.mem_singleton, exists_eq_left, Mem]; omega
  · simp only [List.mem_filter, List.mem_cons, List.not_mem_nil, or_false, and_assoc, exists_eq_or_imp,
      exists_eq_left, Mem, isEmpty, Bool.not_eq_true', decide_eq_false_iff_not]
    omega

/-- The union of the yielded pieces is exactly the set difference. -/
theorem difference_mem (a b : TS) (ha : WF a) (hb : WF b) (x : Int) :
    (∃ p ∈ difference a b, Mem x p) ↔ (Mem x a ∧ ¬ Mem x b) :=
  exists_mem_difference a b x

theorem difference_piece {a b p : TS} (ha : WF a) (hb : WF b) (hp : p ∈ difference a b) :
    WF p ∧ (isEmpty a = false → isEmpty p = false) := by
  rw [difference_closed a b] at hp
  split at hp
  · cases List.mem_singleton.mp hp; exact ⟨ha, id⟩
  · have hc := consts
    simp only [List.mem_filter, List.mem_cons, List.not_mem_nil, or_false, Bool.not_eq_true', isEmpty,
      decide_eq_false_iff_not] at hp ⊢
    unfold WF at ha hb ⊢
    rcases hp with ⟨rfl | rfl, hp⟩ <;> exact ⟨.inr (by dsimp only at hp ⊢; omega), fun _ => hp⟩

/-- Every yielded piece is constructible, and non-empty whenever `self` is. -/
theorem difference_pieces (a b : TS) (ha : WF a) (hb : WF b) (hne : isEmpty a = false) :
    ∀ p ∈ difference a b, WF p ∧ isEmpty p = false :=
  fun _ hp => (difference_piece ha hb hp).imp_right fun h => h hne

theorem difference_length (a b : TS) : (difference a b).length ≤ 2 := by
  rw [difference_closed a b]
  split
  · exact Nat.le_succ 1
  · exact List.length_filter_le _ _

theorem pairwise_difference (a b : TS) :
    (difference a b).Pairwise (fun p q => ∀ x, ¬ (Mem x p ∧ Mem x q)) := by
  rw [difference_closed a b]
  split
  · exact List.pairwise_singleton _ _
  · refine List.Pairwise.filter _ (List.pairwise_pair.mpr fun x => ?_)
    simp only [Mem]
    omega

theorem difference_disjoint (a b : TS) (ha : WF a) (hb : WF b) :
    (difference a b).Pairwise (fun p q => ∀ x, ¬ (Mem x p ∧ Mem x q)) :=
  pairwise_difference a b

/-- Disjoint pieces that cover `a \ b`: at every instant exactly one piece holds it inside `a \ b`,
none outside. -/
theorem difference_count (a b : TS) (x : Int) :
    ((difference a b).filter (containsT · x)).length = if Mem x a ∧ ¬ Mem x b then 1 else 0 := by
  rw [← List.countP_eq_length_filter]
  have h1 := List.countP_le_one_of_pairwise (containsT · x) _
    ((pairwise_difference a b).imp fun h => by simpa only [containsT_iff] using h x)
  have h2 : 0 < List.countP (containsT · x) (difference a b) ↔ Mem x a ∧ ¬ Mem x b := by
    rw [← exists_mem_difference a b x, List.countP_pos_iff]
    simp only [containsT_iff]
  split
  · exact Nat.le_antisymm h1 (h2.mpr ‹_›)
  · exact Nat.eq_zero_of_not_pos (mt h2.mp ‹_›)

open Sql

/-- Row environment: columns 0,1 hold timespan `a`, columns 2,3 hold timespan `b`, column 4 an instant. -/
def env (a b : Option TS) (t : Option Int) : Nat → V
  | 0 => match a with | some a => .int a.b | none => .null
  | 1 => match a with | some a => .int a.e | none => .null
  | 2 => match b with | some b => .int b.b | none => .null
  | 3 => match b with | some b => .int b.e | none => .null
  | 4 => match t with | some t => .int t | none => .null
  | _ => .null

def colA : E × E := (.col 0, .col 1)

def colB : E × E := (.col 2, .col 3)

/-! Every relation of `Gen.TsSql` is a conjunction of two comparisons, and `eval` computes on the expression tree, so each
agreement theorem below is `Sql.and3_bool` read at the two comparisons of the Python method of the same name. -/

theorem sql_overlaps_agrees (a b : TS) (t : Option Int) :
    eval (env (some a) (some b) t) (TsSql.overlaps colA colB) = .bool (TsPy.overlaps a b) :=
  and3_bool _ _

theorem sql_contains_agrees (a b : TS) (t : Option Int) :
    eval (env (some a) (some b) t) (TsSql.contains colA colB) = .bool (TsPy.contains a b) :=
  and3_bool _ _

theorem sql_lt_agrees (a b : TS) (t : Option Int) :
    eval (env (some a) (some b) t) (TsSql.lt colA colB) = .bool (TsPy.lt a b) :=
  and3_bool _ _

theorem sql_gt_agrees (a b : TS) (t : Option Int) :
    eval (env (some a) (some b) t) (TsSql.gt colA colB) = .bool (TsPy.gt a b) :=
  and3_bool _ _

theorem sql_containsT_agrees (a : TS) (b : Option TS) (t : Int) :
    eval (env (some a) b (some t)) (TsSql.containsT colA (.col 4)) = .bool (TsPy.containsT a t) :=
  and3_bool _ _

theorem sql_overlapsT_agrees (a : TS) (b : Option TS) (t : Int) :
    eval (env (some a) b (some t)) (TsSql.overlapsT colA (.col 4)) = .bool (TsPy.overlapsT a t) :=
  sql_containsT_agrees a b t

theorem sql_ltT_agrees (a : TS) (b : Option TS) (t : Int) :
    eval (env (some a) b (some t)) (TsSql.ltT colA (.col 4)) = .bool (TsPy.ltT a t) :=
  and3_bool _ _

theorem sql_gtT_agrees (a : TS) (b : Option TS) (t : Int) :
    eval (env (some a) b (some t)) (TsSql.gtT colA (.col 4)) = .bool (TsPy.gtT a t) :=
  and3_bool _ _

theorem sql_isEmpty_agrees (a : TS) (b : Option TS) (t : Option Int) :
    eval (env (some a) b t) (TsSql.isEmpty colA) = .bool (TsPy.isEmpty a) :=
  rfl

/-- A NULL first operand (both columns NULL) makes these relations NULL, never true. -/
theorem sql_null_operand (b : Option TS) (t : Option Int) :
    eval (env none b t) (TsSql.overlaps colA colB) = .null ∧
    eval (env none b t) (TsSql.contains colA colB) = .null ∧
    eval (env none b t) (TsSql.lt colA colB) = .null ∧
    eval (env none b t) (TsSql.gt colA colB) = .null ∧
    eval (env none b t) (TsSql.isEmpty colA) = .null ∧
    eval (env none b t) (TsSql.isNull colA) = .bool true := by
  cases b <;> exact ⟨rfl, rfl, rfl, rfl, rfl, rfl⟩

theorem sql_isNull_nonnull (a : TS) (b : Option TS) (t : Option Int) :
    eval (env (some a) b t) (TsSql.isNull colA) = .bool false :=
  rfl

example : WF ⟨10, 20⟩ ∧ WF empty ∧ ¬ WF ⟨20, 10⟩ := by decide
example : ctor (.time 5 false false) (.time 5 false false) true = .ok ⟨5, 6⟩ := by rfl
example : difference ⟨0, 100⟩ ⟨40, 60⟩ = [⟨0, 40⟩, ⟨60, 100⟩] := by decide
example : BoundOk (.time 5 false false) := by simp [BoundOk, minNsec, maxNsec]

end C11
