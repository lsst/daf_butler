import ButlerModel.Model.Transfer
import ButlerModel.Gen.ExportOrderPy
import ButlerModel.Lemmas.List
import ButlerModel.Lemmas.Sort
/-! # C19 — export/import and transfer reproduce the selection exactly

About `Model/Transfer.lean`, one section per merge policy.  What the export holds arrives as exported, and a
conflicting entry of the target is refused, for everything merged strictly and for validity ranges; a conflicting
dimension record is silently kept (`keep_conflict_kept`, hence `keep_exact_partial`) and a conflicting chain
silently redefined (`over_conflict_redefines`). -/
namespace C19
open Transfer

theorem lookup_cons (t : Tbl) (k v k' : Nat) :
    lookup ((k, v) :: t) k' = if k' = k then some v else lookup t k' := by
  rw [lookup, List.lookup_cons]
  by_cases h : k' = k
  · rw [h, beq_self_eq_true, if_pos rfl]
  · rw [beq_false_of_ne h, if_neg h, lookup]

theorem lookup_of_mem {s : Tbl} (hn : NoDup s) {k v : Nat} (hm : (k, v) ∈ s) : lookup s k = some v :=
  List.lookup_of_mem (fun _ ha _ hb => List.Nodup.eq_of_key_eq hn ha hb) hm

/-! ## keep merge (dimension records): the target wins — property C19 holds only without conflicts -/

theorem lookup_mergeKeep (s t : Tbl) (k : Nat) : lookup (mergeKeep t s) k = (lookup t k).or (lookup s k) := by
  fun_induction mergeKeep t s with
  | case1 t => simp [lookup]
  | case2 t k0 v0 s hl ih | case3 t k0 v0 s _ hl ih =>
    simp only [ih, lookup_cons]
    by_cases e : k = k0
    · simp [e, hl]
    · simp [e]

theorem mergeKeep_of_present : ∀ (s t : Tbl), (∀ k v, (k, v) ∈ s → lookup t k = some v) → mergeKeep t s = t
  | [], _, _ => rfl
  | (k0, v0) :: s, t, h => by
    simp only [mergeKeep, h k0 v0 List.mem_cons_self]
    exact mergeKeep_of_present s t fun k v hm => h k v (List.mem_cons_of_mem _ hm)

theorem keep_preserves_target : ∀ (s t : Tbl) (k v : Nat), lookup t k = some v → lookup (mergeKeep t s) k = some v := by
  intro s t k v h
  rw [lookup_mergeKeep, h, Option.some_or]

theorem eq_of_kept {s t : Tbl} {k v v' : Nat} (h : lookup (mergeKeep t s) k = some v) (hl : lookup t k = some v') : v = v' := by
  rw [keep_preserves_target s t k v' hl] at h
  exact (Option.some.inj h).symm

/-- `_partial`: the source's record arrives only when the target has none for that key. -/
theorem keep_exact_partial : ∀ (s t : Tbl) (k v : Nat), (k, v) ∈ s → lookup t k = none → NoDup s →
    lookup (mergeKeep t s) k = some v := by
  intro s t k v hm hl hn
  rw [lookup_mergeKeep, hl, Option.none_or, lookup_of_mem hn hm]

/-- Known finding C19-a as a theorem: a conflicting dimension record in the target is silently kept —
neither refused nor made equal to the source. -/
theorem keep_conflict_kept : lookup (mergeKeep [(1, 10)] [(1, 20)]) 1 = some 10 := by decide

/-! ## strict merge (dataset types, datasets by UUID, TAGGED memberships) -/

/-- **A strict merge is the keep merge, accepted exactly when that holds every entry of the source as given** (no hypothesis on
the source: of two entries for one key the second is checked against the first). -/
theorem mergeStrict_eq_some {s t r : Tbl} :
    mergeStrict t s = some r ↔ r = mergeKeep t s ∧ ∀ k v, (k, v) ∈ s → lookup r k = some v := by
  -- an entry the table holds when the keep merge starts is held at its end, so asking for it as well adds nothing
  have head {s' t' k0 v0} (h0 : lookup t' k0 = some v0) (hr : r = mergeKeep t' s') :
      (∀ k v, (k, v) ∈ s' → lookup r k = some v) ↔ ∀ k v, (k, v) ∈ (k0, v0) :: s' → lookup r k = some v := by
    have : lookup r k0 = some v0 := hr ▸ keep_preserves_target s' t' k0 v0 h0
    simp [or_imp, forall_and, this]
  fun_induction mergeStrict t s with
  | case1 t => simp [mergeKeep, eq_comm]
  | case2 t k0 v0 s hl ih =>                        -- a new key: entered
    simp only [ih, mergeKeep, hl]
    exact and_congr_right (head (by rw [lookup_cons, if_pos rfl]))
  | case3 t k0 s v0 hl ih =>                        -- a key the target has with this value
    simp only [ih, mergeKeep, hl]
    exact and_congr_right (head hl)
  | case4 t k0 v0 s v' hl hv =>                     -- a conflict: the keep merge holds the target's value
    exact iff_of_false nofun fun ⟨hr, h⟩ => hv (eq_of_kept (hr ▸ h k0 v0 List.mem_cons_self) hl)

/-- **Exact.** After an accepted strict merge every entry of the source is in the result, as given. -/
theorem strict_exact : ∀ (s t r : Tbl), mergeStrict t s = some r → NoDup s →
    (∀ k v, (k, v) ∈ s → lookup r k = some v) ∧ (∀ k, (∀ v, (k, v) ∉ s) → lookup r k = lookup t k) := by
  intro s t r h _
  obtain ⟨hr, hex⟩ := mergeStrict_eq_some.mp h
  refine ⟨hex, fun k hno => ?_⟩
  rw [hr, lookup_mergeKeep, lookup, lookup, List.lookup_eq_none_of_forall_not_mem hno, Option.or_none]

/-- **Conflicts are refused.** If the target defines a key of the source differently, nothing is merged. -/
theorem strict_conflict_refused : ∀ (s t : Tbl) (k v v' : Nat), (k, v) ∈ s → lookup t k = some v' → v ≠ v' →
    NoDup s → mergeStrict t s = none := by
  intro s t k v v' hm hl hne _
  refine Option.eq_none_iff_forall_ne_some.mpr fun r h => ?_
  obtain ⟨hr, hex⟩ := mergeStrict_eq_some.mp h
  exact hne (eq_of_kept (hr ▸ hex k v hm) hl)

/-- **Repetition changes nothing.** Merging the same source into the result of an accepted merge is
accepted again and gives the same table. -/
theorem strict_idempotent (s t r : Tbl) (h : mergeStrict t s = some r) (hn : NoDup s) :
    mergeStrict r s = some r :=
  have hex := (mergeStrict_eq_some.mp h).2
  mergeStrict_eq_some.mpr ⟨(mergeKeep_of_present s r hex).symm, hex⟩

/-! ## overwrite merge (chain definitions): the source wins -/

theorem mergeOver_eq : ∀ (s t : Tbl), mergeOver t s = s.reverse ++ t
  | [], _ => rfl
  | (k0, v0) :: s, t => by simp [mergeOver, mergeOver_eq s]

theorem over_exact : ∀ (s t : Tbl) (k v : Nat), (k, v) ∈ s → NoDup s → lookup (mergeOver t s) k = some v := by
  intro s t k v hm hn
  have hrev : List.lookup k s.reverse = some v :=
    List.lookup_of_mem (fun _ ha _ hb => List.Nodup.eq_of_key_eq hn (List.mem_reverse.mp ha) (List.mem_reverse.mp hb))
      (List.mem_reverse.mpr hm)
  rw [mergeOver_eq, lookup, List.lookup_append, hrev, Option.some_or]

/-- Known finding C19-b as a theorem: a chain that exists in the target with other children is
redefined by the import, not refused. -/
theorem over_conflict_redefines : lookup (mergeOver [(1, 10)] [(1, 20)]) 1 = some 20 := by decide

/-! ## validity ranges -/

/-- An accepted import keeps every range the target had and adds every range of the source. -/
theorem calib_exact : ∀ (s t r : List Rng), mergeCalib t s = some r → (∀ x ∈ t, x ∈ r) ∧ (∀ x ∈ s, x ∈ r) := by
  intro s t r h
  fun_induction mergeCalib t s with
  | case1 t =>
    cases h
    exact ⟨fun _ h => h, nofun⟩
  | case2 => cases h
  | case3 t x s _ ih =>
    obtain ⟨h1, h2⟩ := ih h
    exact ⟨fun y hy => h1 y (List.mem_cons_of_mem _ hy), List.forall_mem_cons.mpr ⟨h1 x List.mem_cons_self, h2⟩⟩

/-- Ranges never overlap after an accepted import if they did not before. -/
theorem calib_disjoint : ∀ (s t r : List Rng), mergeCalib t s = some r → t.Pairwise (fun a b => overlaps a b = false) →
    r.Pairwise (fun a b => overlaps a b = false) := by
  intro s t r h hp
  fun_induction mergeCalib t s with
  | case1 t =>
    cases h
    exact hp
  | case2 => cases h
  | case3 t x s hx ih => exact ih h (List.pairwise_cons.mpr ⟨by simpa using hx, hp⟩)

/-- A repeated import of a non-empty range is **refused** (certify rejects the identical range), so
with calibrations repetition is "refused, nothing altered" rather than "absorbed". -/
theorem calib_repeat_refused (t : List Rng) (x : Rng) (hx : x.b < x.e) (hm : x ∈ t) (s : List Rng) :
    mergeCalib t (x :: s) = none := by
  -- a non-empty range overlaps itself
  rw [mergeCalib, if_pos (List.any_eq_true.mpr ⟨x, hm, by simp [overlaps, hx]⟩)]

/-! ## the repository -/

theorem importInto_eq_some {t e r : Repo} : importInto t e = some r ↔
    ∃ ty ds sl tg cal, mergeStrict t.types e.types = some ty ∧ mergeStrict t.ds e.ds = some ds ∧
      mergeStrict t.slots e.slots = some sl ∧ mergeStrict t.tags e.tags = some tg ∧ mergeCalib t.calibs e.calibs = some cal ∧
      r = { types := ty, dims := mergeKeep t.dims e.dims, ds := ds, slots := sl, tags := tg,
            chains := mergeOver t.chains e.chains, calibs := cal } := by
  simp only [importInto, Option.bind_eq_bind, Option.pure_def, Option.bind_eq_some_iff, Option.some.injEq, eq_comm (b := r)]
  constructor
  · rintro ⟨ty, h1, ds, h2, sl, h3, tg, h4, cal, h5, hr⟩; exact ⟨ty, ds, sl, tg, cal, h1, h2, h3, h4, h5, hr⟩
  · rintro ⟨ty, ds, sl, tg, cal, h1, h2, h3, h4, h5, hr⟩; exact ⟨ty, h1, ds, h2, sl, h3, tg, h4, cal, h5, hr⟩

/-- **Exactness for the strictly merged parts.** An accepted import contains every dataset type, dataset
(id ↦ type, data ID, run, content) and TAGGED membership of the export exactly as exported, and leaves
every dataset of the target that the export does not name as it was. -/
theorem import_exact (t e r : Repo) (h : importInto t e = some r)
    (hn : NoDup e.types ∧ NoDup e.ds ∧ NoDup e.tags) :
    (∀ k v, (k, v) ∈ e.ds → lookup r.ds k = some v) ∧
    (∀ k, (∀ v, (k, v) ∉ e.ds) → lookup r.ds k = lookup t.ds k) ∧
    (∀ k v, (k, v) ∈ e.tags → lookup r.tags k = some v) ∧
    (∀ k v, (k, v) ∈ e.types → lookup r.types k = some v) := by
  obtain ⟨ty, ds, sl, tg, cal, h1, h2, _, h4, _, rfl⟩ := importInto_eq_some.mp h
  exact ⟨(strict_exact _ _ _ h2 hn.2.1).1, (strict_exact _ _ _ h2 hn.2.1).2,
         (strict_exact _ _ _ h4 hn.2.2).1, (strict_exact _ _ _ h1 hn.1).1⟩

/-- **Conflicting datasets are refused**: the same UUID with another type / data ID / run / content. -/
theorem import_conflict_refused (t e : Repo) (k v v' : Nat) (hm : (k, v) ∈ e.ds) (hl : lookup t.ds k = some v')
    (hne : v ≠ v') (hn : NoDup e.ds) : importInto t e = none := by
  refine Option.eq_none_iff_forall_ne_some.mpr fun r h => ?_
  obtain ⟨_, _, _, _, _, _, h2, _⟩ := importInto_eq_some.mp h
  rw [strict_conflict_refused e.ds t.ds k v v' hm hl hne hn] at h2
  cases h2

/-- …and so is a *different* dataset (another UUID) for a type / data ID / run the target already fills. -/
theorem import_slot_conflict_refused (t e : Repo) (k v v' : Nat) (hm : (k, v) ∈ e.slots) (hl : lookup t.slots k = some v')
    (hne : v ≠ v') (hn : NoDup e.slots) : importInto t e = none := by
  refine Option.eq_none_iff_forall_ne_some.mpr fun r h => ?_
  obtain ⟨_, _, _, _, _, _, _, h3, _⟩ := importInto_eq_some.mp h
  rw [strict_conflict_refused e.slots t.slots k v v' hm hl hne hn] at h3
  cases h3

/-- **Repeating an import without calibrations** is accepted and leaves dataset types, datasets, TAGGED
memberships and validity ranges as they were. -/
theorem import_idempotent (t e r : Repo) (h : importInto t e = some r)
    (hn : NoDup e.types ∧ NoDup e.ds ∧ NoDup e.tags) (hs : NoDup e.slots) (hc : e.calibs = []) :
    ∃ r', importInto r e = some r' ∧ r'.types = r.types ∧ r'.ds = r.ds ∧ r'.tags = r.tags ∧ r'.calibs = r.calibs := by
  obtain ⟨ty, ds, sl, tg, cal, h1, h2, h3, h4, _, rfl⟩ := importInto_eq_some.mp h
  exact ⟨_, importInto_eq_some.mpr ⟨ty, ds, sl, tg, cal, strict_idempotent _ _ _ h1 hn.1, strict_idempotent _ _ _ h2 hn.2.1,
    strict_idempotent _ _ _ h3 hs, strict_idempotent _ _ _ h4 hn.2.2, by rw [hc]; rfl, rfl⟩, rfl, rfl, rfl, rfl⟩

example : importInto { ds := [(1, 5)] } { ds := [(1, 5), (2, 6)], tags := [(7, 1)] } =
    some { ds := [(2, 6), (1, 5)], tags := [(7, 1)] } := by decide
example : importInto { ds := [(1, 5)] } { ds := [(1, 9)] } = none := by decide

end C19

/-! ### The order in which an export writes collections, as generated from the source on every run (`Gen/ExportOrderPy.lean`) -/
namespace C19.Translated
open ExportOrder Gen.ExportOrderPy

/-- `sorted` is the insertion sort of `Model/Paging.lean` on `≤`. -/
theorem sorted_eq (l : List Nat) : sorted l = Paging.sortBy (fun a b => decide (a ≤ b)) l := by
  unfold sorted Paging.sortBy
  congr
  funext x r
  induction r with
  | nil => rfl
  | cons y r ih => simp [ins, Paging.insertBy, ih]

theorem mem_sorted {l : List Nat} {x : Nat} : x ∈ sorted l ↔ x ∈ l :=
  sorted_eq l ▸ (Paging.sortBy_perm _ l).mem_iff

theorem isKey_iff {cs : Chains} {c : Nat} : isKey cs c = true ↔ ∃ kids, (c, kids) ∈ cs := List.any_fst_beq_iff

/-- What a round leaves to do: the chains that were not unblocked. -/
theorem mem_filter_blocked {cs : Chains} {pc : Nat × List Nat} :
    pc ∈ cs.filter (fun pc => !(unblocked cs).contains pc.1) ↔ pc ∈ cs ∧ pc.1 ∉ unblocked cs := by
  simp

/-- everything still to be emitted is emitted, after what was there -/
theorem loop_emits : ∀ (f : Nat) (cs : Chains) (res out : List Nat), loop f cs res = .ok out →
    ∃ rest, out = res ++ rest ∧ ∀ p kids, (p, kids) ∈ cs → p ∈ rest := by
  intro f cs res out h
  fun_induction loop f cs res with
  | case1 cs res he | case3 _ cs res he =>          -- nothing left
    cases List.isEmpty_iff.mp he
    cases h
    exact ⟨[], by simp, nofun⟩
  | case2 | case4 => cases h                        -- out of fuel, no chain unblocked
  | case5 f cs res _ _ ih =>                        -- a round, then the rest
    obtain ⟨rest, hout, hall⟩ := ih h
    refine ⟨sorted (unblocked cs) ++ rest, by rw [hout, List.append_assoc], fun p kids hm => ?_⟩
    by_cases hu : p ∈ unblocked cs
    · exact List.mem_append_left _ (mem_sorted.mpr hu)
    · exact List.mem_append_right _ (hall p kids (mem_filter_blocked.mpr ⟨hm, hu⟩))

/-- `c` is emitted before `p` -/
def Before (out : List Nat) (c p : Nat) : Prop := ∃ l1 l2, out = l1 ++ p :: l2 ∧ c ∈ l1

/-- what had been emitted before a round stands before every chain emitted from that round on -/
theorem before_of_mem {f : Nat} {cs : Chains} {res out : List Nat} (h : loop f cs res = .ok out) {p x : Nat} {kids : List Nat}
    (hp : (p, kids) ∈ cs) (hx : x ∈ res) : Before out x p := by
  obtain ⟨rest, hout, hall⟩ := loop_emits _ _ _ _ h
  obtain ⟨a, b, hab⟩ := List.append_of_mem (hall p kids hp)
  exact ⟨res ++ a, b, by rw [hout, hab, List.append_assoc], List.mem_append_left _ hx⟩

/-- **Chains follow their children**: in the order the export writes (and the import registers) collections, every CHAINED
collection comes after each of its children that is itself an exported chain. -/
theorem chains_follow_children : ∀ (f : Nat) (cs : Chains) (res out : List Nat), (cs.map (·.1)).Nodup → loop f cs res = .ok out →
    ∀ p kids c, (p, kids) ∈ cs → c ∈ kids → isKey cs c = true → Before out c p := by
  intro f cs res out hnd h
  fun_induction loop f cs res with
  | case1 cs res he | case3 _ cs res he =>          -- nothing left
    cases List.isEmpty_iff.mp he
    exact fun _ _ _ hm => nomatch hm
  | case2 | case4 => cases h                        -- out of fuel, no chain unblocked
  | case5 f cs res _ _ ih =>                        -- a round, then the rest
    intro p kids c hm hc hk
    -- p cannot be unblocked: its child c is still a chain to emit
    have hpu : p ∉ unblocked cs := by
      intro hp
      simp only [unblocked, List.mem_map, List.mem_filter, Bool.not_eq_true', List.any_eq_false] at hp
      obtain ⟨a, ⟨ha, hfree⟩, hap⟩ := hp
      cases List.Nodup.eq_of_key_eq hnd ha hm hap
      exact hfree c hc hk
    have hm' := mem_filter_blocked.mpr ⟨hm, hpu⟩
    by_cases hcu : c ∈ unblocked cs
    · -- c goes out in this round, p in a later one
      exact before_of_mem h hm' (List.mem_append_right _ (mem_sorted.mpr hcu))
    · apply ih (hnd.map_filter _) h p kids c hm' hc
      obtain ⟨ck, hck⟩ := isKey_iff.mp hk
      exact isKey_iff.mpr ⟨ck, mem_filter_blocked.mpr ⟨hck, hcu⟩⟩

/-- the fuel `sortedCollections` gives the loop (one step per chain) is never exhausted: every round removes a chain -/
theorem fuel_suffices : ∀ (f : Nat) (cs : Chains) (res : List Nat), cs.length ≤ f → loop f cs res ≠ .error "fuel" := by
  intro f cs res hl
  fun_induction loop f cs res with
  | case1 | case3 | case4 => simp
  | case2 cs res hne =>                             -- no fuel, so no chain either
    cases List.length_eq_zero_iff.mp (Nat.le_zero.mp hl)
    exact absurd rfl hne
  | case5 f cs res _ hu ih =>
    apply ih
    -- some chain is unblocked, and the round removes it
    obtain ⟨x, hx⟩ := List.exists_mem_of_ne_nil _ (mt List.isEmpty_iff.mpr hu)
    obtain ⟨pc, hpc, hpx⟩ := List.mem_map.mp hx
    have hlt : (cs.filter fun pc => !(unblocked cs).contains pc.1).length < cs.length :=
      List.length_filter_lt_length_iff_exists.mpr ⟨pc, (List.mem_filter.mp hpc).1, by simp [hpx, hx]⟩
    omega

/-- **The export order of collections**: for distinct collection names, when `_computeSortedCollections` returns, every CHAINED
collection stands after each of its children that is an exported chain, and after every collection that is not a chain. -/
theorem export_order (records : List (Nat × Option (List Nat))) (out : List Nat)
    (hnd : ((split records).1.map (·.1)).Nodup) (h : sortedCollections records = .ok out) :
    (∀ p kids c, (p, kids) ∈ (split records).1 → c ∈ kids → isKey (split records).1 c = true → Before out c p) ∧
    (∀ p kids x, (p, kids) ∈ (split records).1 → x ∈ (split records).2 → Before out x p) :=
  ⟨chains_follow_children _ _ _ _ hnd h, fun _ _ _ hp hx => before_of_mem h hp hx⟩

/-- a cycle among the exported chains is reported, not looped on or silently cut -/
example : (match sortedCollections [(1, some [2]), (2, some [1]), (3, none)] with | .error e => e == "RuntimeError" | .ok _ => false) = true := by decide

/-- non-vacuity: chain 5 ⊇ {chain 4, run 1}, chain 4 ⊇ {run 2}: runs first (sorted), then 4, then 5 -/
example : (match sortedCollections [(5, some [4, 1]), (2, none), (4, some [2]), (1, none)] with | .ok l => l == [1, 2, 4, 5] | .error _ => false) = true := by decide

end C19.Translated
