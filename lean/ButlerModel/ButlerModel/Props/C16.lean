import ButlerModel.Model.Paging
import ButlerModel.Gen.PostprocessingPy
import ButlerModel.Lemmas.List
import ButlerModel.Lemmas.Sort
/-! # C16 — ordering, limits, paging and counts describe the same result set

Proved of `Model/Paging.lean` for all rows, post-filters, limits and page sizes ≥ 1.  Not proved: that a constraint spelt as data ID,
as keyword arguments or as where-clause selects the same rows (the harness compares the three). -/
namespace C16
open Paging

variable {α : Type}

/-- One page through `apply`, in any limit state: the page's share of `spec`, and the limit goes down by the number of rows yielded. -/
theorem applyPage_eq (p : α → Bool) (lim : Option Nat) (rows : List α) :
    applyPage p lim rows = (spec p lim rows, lim.map (· - (spec p lim rows).length)) := by
  fun_induction applyPage p lim rows with
  | case1 rows => rfl  -- no limit
  | case2 rows => rfl  -- the limit is used up
  | case3 l => rfl  -- the page is at its end
  | case4 r rs hp =>  -- the last row the limit allows
    simp only [spec, List.filter_cons_of_pos hp]
    rfl
  | case5 l r rs hp _ out st h ih =>
    cases h.symm.trans ih  -- `out` and `st` are what the induction hypothesis says
    simp only [spec, List.filter_cons_of_pos hp, List.take_succ_cons, List.length_cons, Option.map_some, Nat.succ_eq_add_one,
      Nat.add_sub_add_right]
  | case6 l r rs hp ih => simp only [ih, spec, List.filter_cons_of_neg hp]

theorem applyPage_none (p : α → Bool) (rows : List α) : applyPage p none rows = (rows.filter p, none) :=
  applyPage_eq p none rows

/-- One page through `apply`: yields the filtered page cut at the remaining limit, and the limit
state decreases by exactly the number of rows yielded. -/
theorem applyPage_spec (p : α → Bool) : ∀ (rows : List α) (l : Nat),
    applyPage p (some l) rows = ((rows.filter p).take l, some (l - ((rows.filter p).take l).length)) :=
  fun rows l => applyPage_eq p (some l) rows

/-- **Paging never changes the result**: iterating pages of *any* size through `apply` with its
decrementing limit yields every post-filtered row exactly once, in order, cut at the limit —
also when the limit is 0, is hit in the middle of a page, or exactly at a page boundary. -/
theorem iterate_spec (p : α → Bool) : ∀ (pgs : List (List α)) (limit : Option Nat),
    iterate p limit pgs = spec p limit pgs.flatten := by
  intro pgs limit
  fun_induction iterate p limit pgs with
  | case1 limit => cases limit <;> simp [spec]
  | case2 limit pg pgs out st h ih =>
    cases h.symm.trans (applyPage_eq p limit pg)
    rw [ih, List.flatten_cons]
    cases limit with
    | none => exact (List.filter_append ..).symm
    | some l =>
      simp only [spec, Option.map_some, List.filter_append]
      exact List.take_append_take_sub _ _ l

theorem pages_flatten (k : Nat) (hk : 0 < k) {fuel : Nat} {rows : List α} (h : rows.length ≤ fuel) :
    (pages k fuel rows).flatten = rows := by
  fun_induction pages k fuel rows with
  | case1 rows => exact (List.eq_nil_of_length_eq_zero (Nat.le_zero.mp h)).symm
  | case2 _ rows he => exact (List.isEmpty_iff.mp he).symm
  | case3 fuel rows hne ih =>
    have : 0 < rows.length := List.length_pos_iff.mpr (by simpa using hne)
    rw [List.flatten_cons, ih (by rw [List.length_drop]; omega), List.take_append_drop]

/-- The page size is irrelevant (for every `k ≥ 1`). -/
theorem paging_concat (p : α → Bool) (k : Nat) (hk : 0 < k) (limit : Option Nat) (rows : List α) :
    iterate p limit (pages k rows.length rows) = spec p limit rows := by
  rw [iterate_spec, pages_flatten k hk (Nat.le_refl _)]

/-- A limit returns a prefix of the unlimited result, of length `min limit n`. -/
theorem limit_prefix (p : α → Bool) (l : Nat) (rows : List α) :
    spec p (some l) rows = (spec p none rows).take l ∧ (spec p (some l) rows).length = min l (spec p none rows).length := by
  simp [spec, List.length_take]

/-- `count(exact=True, discard=True)` counts what iteration yields; `any` is non-emptiness of it. -/
theorem count_eq_length (p : α → Bool) (k : Nat) (hk : 0 < k) (limit : Option Nat) (rows : List α) :
    (iterate p limit (pages k rows.length rows)).length = (spec p limit rows).length := by
  rw [paging_concat p k hk]

theorem any_iff_nonempty (p : α → Bool) (rows : List α) :
    (rows.any p = true) ↔ spec p none rows ≠ [] := by
  simp [spec, List.filter_eq_nil_iff]

/-- `ORDER BY`: the ordered result is a permutation of the unordered one… -/
theorem sortBy_perm (lt : α → α → Bool) (l : List α) : (sortBy lt l).Perm l := Paging.sortBy_perm lt l

/-- …sorted by the requested keys (for any total preorder given as `¬ lt b a`). -/
theorem sortBy_sorted (lt : α → α → Bool) (htrans : ∀ a b c, lt b a = false → lt c b = false → lt c a = false)
    (htotal : ∀ a b, lt a b = true → lt b a = false) (l : List α) :
    (sortBy lt l).Pairwise (fun a b => lt b a = false) := Paging.sortBy_sorted lt htrans htotal l

/-! non-vacuity: limit 3 hit in the middle of the second page of size 2 -/
example : iterate (fun n : Nat => n % 2 == 0) (some 3) (pages 2 7 [0, 1, 2, 4, 6, 8, 10]) = [0, 2, 4] := by decide
example : iterate (fun _ : Nat => true) (some 0) (pages 2 3 [1, 2, 3]) = [] := by decide

/-- **In the `query_*` wrappers `limit = -n` returns the first `min n total` rows and warns exactly when rows were left out** -/
theorem wrapper_negative (n : Nat) (hn : 0 < n) (rows : List α) :
    wrapper (some (-(n : Int))) rows = (rows.take n, decide (n < rows.length)) := by
  have hneg : (-(n : Int)) < 0 := by omega
  have habs : (-(n : Int)).natAbs = n := by omega
  simp only [wrapper, hneg, ↓reduceIte, habs]
  -- the query was asked for `n + 1` rows: a full answer shows there are more than `n`
  by_cases hl : n < rows.length
  · have h1 : (rows.take (n + 1)).length = n + 1 := by rw [List.length_take]; omega
    rw [if_pos (by rw [h1]; exact beq_self_eq_true _), List.dropLast_eq_take, h1, List.take_take, decide_eq_true hl,
      Nat.add_sub_cancel, Nat.min_eq_left (Nat.le_succ n)]
  · have h1 : rows.take (n + 1) = rows := List.take_of_length_le (by omega)
    rw [h1, if_neg (by rw [beq_iff_eq]; omega), List.take_of_length_le (by omega), decide_eq_false hl]

theorem wrapper_negative_warns (n : Nat) (hn : 0 < n) (rows : List α) : (wrapper (some (-(n : Int))) rows).2 = decide (n < rows.length) := by
  rw [wrapper_negative n hn]

theorem wrapper_negative_length (n : Nat) (hn : 0 < n) (rows : List α) : (wrapper (some (-(n : Int))) rows).1.length = min n rows.length := by
  rw [wrapper_negative n hn, List.length_take]

theorem wrapper_nonnegative (n : Nat) (rows : List α) : wrapper (some (n : Int)) rows = (rows.take n, false) := by
  have : ¬ ((n : Int) < 0) := by omega
  simp [wrapper, this]

theorem wrapper_none (rows : List α) : wrapper none rows = (rows, false) := rfl

example : wrapper (some (-3)) [1, 2, 3] = ([1, 2, 3], false) ∧ wrapper (some (-3)) [1, 2, 3, 4] = ([1, 2, 3], true)
    ∧ wrapper (some (-1)) [7] = ([7], false) ∧ wrapper (some (-3)) [1, 2] = ([1, 2], false) := by decide

end C16

/-! ## T-tie: `Postprocessing.apply` **as translated from `_postprocessing.py` on every run**
(`translate/gen_postprocessing.py`: the guards, `continue`, `yield`, the in-place decrement of `_limit` and the `return` at
zero are kept; the region tests of one row are the predicate `p`). -/
namespace C16.Translated
open Paging
variable {α : Type}

/-- The loop of the translated `apply`, for any loop body that leaves a stopped state alone and, while running, skips a row
that fails the filter, yields one that passes, decrements the limit and stops when it reaches 0. -/
theorem foldl_spec (p : α → Bool) {step : List α × Option Nat × Bool → α → List α × Option Nat × Bool}
    (hstop : ∀ out lim row, step (out, lim, true) row = (out, lim, true))
    (hrun : ∀ out lim row, step (out, lim, false) row =
      if !(p row) then (out, lim, false)
      else if lim.isSome then
        (if lim.map (· - 1) == some 0 then (out ++ [row], lim.map (· - 1), true) else (out ++ [row], lim.map (· - 1), false))
      else (out ++ [row], lim, false))
    (rows : List α) (out : List α) (lim : Option Nat) (h : lim ≠ some 0) :
    ((rows.foldl step (out, lim, false)).1, (rows.foldl step (out, lim, false)).2.1) =
      (out ++ (applyPage p lim rows).1, (applyPage p lim rows).2) := by
  induction rows generalizing out lim with
  | nil => cases lim <;> simp [applyPage_eq, spec]
  | cons r rs ih =>
    rw [List.foldl_cons, hrun]
    by_cases hp : p r
    · rcases lim with _ | _ | _ | l
      · simp [hp, ih, applyPage]
      · exact absurd rfl h
      · simp [hp, applyPage, List.foldl_fixed (hstop (out ++ [r]) (some 0))]  -- the last row the limit allows: the loop stops
      · simp [hp, applyPage, ih]
    · simp [hp, ih _ _ h, applyPage_eq, spec]

/-- **`Postprocessing.apply` as translated from the source on every run is the page function of
`Model/Paging.lean`** — for every post-filter, every remaining limit (also none and 0) and every page. -/
theorem translated_apply_eq (p : α → Bool) (lim : Option Nat) (rows : List α) :
    Gen.PostPy.applyPy p true lim rows = applyPage p lim rows := by
  unfold Gen.PostPy.applyPy
  by_cases h0 : lim = some 0
  · subst h0; simp [applyPage]
  · rw [if_neg (by simp), if_neg (by simpa using h0)]
    exact (foldl_spec p (fun _ _ _ => rfl) (fun _ _ _ => rfl) rows [] lim h0).trans (by rw [List.nil_append])

/-- without post-processing the page passes through and the limit is left to SQL -/
theorem translated_apply_inactive (p : α → Bool) (lim : Option Nat) (rows : List α) :
    Gen.PostPy.applyPy p false lim rows = (rows, lim) := by
  simp [Gen.PostPy.applyPy]

/-- iterating the pages of a query through the translated `apply`, threading its in-place limit -/
def iteratePy (p : α → Bool) : Option Nat → List (List α) → List α
  | _, [] => []
  | st, pg :: pgs => (Gen.PostPy.applyPy p true st pg).1 ++ iteratePy p (Gen.PostPy.applyPy p true st pg).2 pgs

theorem iteratePy_eq (p : α → Bool) (pgs : List (List α)) (st : Option Nat) : iteratePy p st pgs = iterate p st pgs := by
  induction pgs generalizing st with
  | nil => rfl
  | cons pg pgs ih => simp only [iteratePy, iterate, translated_apply_eq, ih]

/-- **Paging through the source's own `apply`**: whatever the raw page size, iterating the pages yields exactly the
post-filtered rows cut at the limit (every row once, in order; a limit gives a prefix of the right length). -/
theorem translated_paging_concat (p : α → Bool) (k : Nat) (hk : 0 < k) (limit : Option Nat) (rows : List α) :
    iteratePy p limit (pages k rows.length rows) = spec p limit rows := by
  rw [iteratePy_eq]; exact C16.paging_concat p k hk limit rows

/-- non-vacuity: limit 2 over pages of 2 with a rejected row in the first page -/
example : iteratePy (fun n : Nat => n % 2 == 1) (some 2) [[1, 2], [3, 5], [7]] = [1, 3] := by decide

end C16.Translated
