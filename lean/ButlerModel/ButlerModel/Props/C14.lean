import ButlerModel.Model.Parser
import ButlerModel.Lemmas.LR
import ButlerModel.Lemmas.LRTables
/-! # C14 — the parser follows the documented grammar and rejects everything else cleanly

* **F obligations** — the grammar the proofs and the model's semantic actions assume is the grammar
  the code has *now*: productions, operator precedence/associativity table, the ordered lexer rules
  (master regex), reserved words and ignored characters, as extracted from the live PLY objects into
  `Gen/Grammar.lean` on every run, are compared with the expected ones by the kernel.
* Lexer (`Model/Lexer.lean`): leading blanks/tabs are insignificant; every case variant of every
  reserved word (all 280 of them) lexes to the keyword token; a reserved word glued to more
  identifier characters is an identifier.
* **The parser never gets stuck** (`parse_outcomes`): the LALR tables extracted from the live PLY
  parser are a well-formed LR automaton (`lr_tables_wellformed`, evaluated by the kernel over the
  whole table on every run: one accessing symbol per state, every reduce entry is preceded — along
  *every* backward path — by the right-hand side it pops and lands on a goto entry, accept only after
  `input`, `$end` never shifted), every semantic action accepts children of those shapes
  (`LR.act_ok`, all 52 productions), and therefore for **every** input string the driver of
  `Model/Parser.lean` yields a tree, the empty expression, or one of the four user-facing errors —
  never an empty stack, a missing goto entry, or an action applied to the wrong children.  That the
  fuel suffices is left to the correspondence: `parse_outcomes` keeps its exhaustion as a disjunct.
The parser model is additionally tied by correspondence; the print/parse round trip and the
documented precedence are decided by the model-free oracles of the check, not proved. -/
namespace C14
open Lexer

def expectedProductions : List String := [
  "S' -> input",
  "input -> expr",
  "input -> empty",
  "empty -> <empty>",
  "expr -> expr OR expr",
  "expr -> expr AND expr",
  "expr -> NOT expr",
  "expr -> bool_primary",
  "bool_primary -> bool_primary EQ predicate",
  "bool_primary -> bool_primary NE predicate",
  "bool_primary -> bool_primary LT predicate",
  "bool_primary -> bool_primary LE predicate",
  "bool_primary -> bool_primary GE predicate",
  "bool_primary -> bool_primary GT predicate",
  "bool_primary -> bool_primary OVERLAPS predicate",
  "bool_primary -> predicate",
  "predicate -> bit_expr IN LPAREN literal_or_id_list RPAREN",
  "predicate -> bit_expr NOT IN LPAREN literal_or_id_list RPAREN",
  "predicate -> bit_expr",
  "identifier -> SIMPLE_IDENTIFIER",
  "identifier -> QUALIFIED_IDENTIFIER",
  "literal_or_id_list -> literal_or_id_list COMMA literal",
  "literal_or_id_list -> literal_or_id_list COMMA identifier",
  "literal_or_id_list -> literal_or_id_list COMMA bind_name",
  "literal_or_id_list -> literal",
  "literal_or_id_list -> identifier",
  "literal_or_id_list -> bind_name",
  "bind_name -> BIND_NAME",
  "bit_expr -> bit_expr ADD bit_expr",
  "bit_expr -> bit_expr SUB bit_expr",
  "bit_expr -> bit_expr MUL bit_expr",
  "bit_expr -> bit_expr DIV bit_expr",
  "bit_expr -> bit_expr MOD bit_expr",
  "bit_expr -> simple_expr",
  "simple_expr -> literal",
  "simple_expr -> identifier",
  "simple_expr -> bind_name",
  "simple_expr -> function_call",
  "simple_expr -> ADD simple_expr",
  "simple_expr -> SUB simple_expr",
  "simple_expr -> LPAREN expr RPAREN",
  "simple_expr -> LPAREN expr COMMA expr RPAREN",
  "literal -> NUMERIC_LITERAL",
  "literal -> ADD NUMERIC_LITERAL",
  "literal -> SUB NUMERIC_LITERAL",
  "literal -> STRING_LITERAL",
  "literal -> TIME_LITERAL",
  "literal -> RANGE_LITERAL",
  "function_call -> SIMPLE_IDENTIFIER LPAREN expr_list RPAREN",
  "expr_list -> expr_list COMMA expr",
  "expr_list -> expr",
  "expr_list -> empty"
]

def expectedPrecedence : List (List String) := [["left", "OR"], ["left", "AND"], ["nonassoc", "OVERLAPS"], ["nonassoc", "EQ", "NE"], ["nonassoc", "LT", "LE", "GT", "GE"], ["left", "ADD", "SUB"], ["left", "MUL", "DIV", "MOD"], ["right", "UPLUS", "UMINUS", "NOT"]]

def expectedMasterRegex : List String := ["(?P<t_newline>\\n+)|(?P<t_TIME_LITERAL>T'.*?')|(?P<t_STRING_LITERAL>'.*?')|(?P<t_RANGE_LITERAL>(?P<start>-?\\d+)\\s*\\.\\.\\s*(?P<stop>-?\\d+)(\\s*:\\s*(?P<stride>[1-9]\\d*))?)|(?P<t_NUMERIC_LITERAL>\\d+(\\.\\d*)?(e[-+]?\\d+)?   #  1, 1., 1.1, 1e10, 1.1e-10, etc.\n        |\n        \\.\\d+(e[-+]?\\d+)?         #  .1, .1e10, .1e+10\n        )|(?P<t_QUALIFIED_IDENTIFIER>[a-zA-Z_][a-zA-Z0-9_]*(\\.[a-zA-Z_][a-zA-Z0-9_]*){1,2})|(?P<t_SIMPLE_IDENTIFIER>[a-zA-Z_][a-zA-Z0-9_]*)|(?P<t_BIND_NAME>[:][a-zA-Z_][a-zA-Z0-9_]*)|(?P<t_ADD>\\+)|(?P<t_GE>>=)|(?P<t_LE><=)|(?P<t_LPAREN>\\()|(?P<t_MUL>\\*)|(?P<t_NE>!=)|(?P<t_RPAREN>\\))|(?P<t_COMMA>,)|(?P<t_DIV>/)|(?P<t_EQ>=)|(?P<t_GT>>)|(?P<t_LT><)|(?P<t_MOD>%)|(?P<t_SUB>-)"]

def expectedReserved : List (String × String) := [("AND", "AND"), ("IN", "IN"), ("NOT", "NOT"), ("OR", "OR"), ("OVERLAPS", "OVERLAPS")]

theorem productions_expected : Gen.Grammar.productions.map (·.1) = expectedProductions := rfl

theorem precedence_expected : Gen.Grammar.precedence = expectedPrecedence := rfl

theorem masterRegex_expected : Gen.Grammar.masterRegex = expectedMasterRegex := rfl

theorem reserved_expected : Gen.Grammar.reserved = expectedReserved := rfl

theorem lexIgnore_expected : Gen.Grammar.lexIgnore = " \t" := rfl

/-- The model's keyword list is the code's. -/
theorem reserved_model : Gen.Grammar.reserved.map (·.1) = ["AND", "IN", "NOT", "OR", "OVERLAPS"] ∧
    ∀ w ∈ Lexer.reserved, w ∈ Gen.Grammar.reserved.map (·.1) := by decide

/-- `Parser.actI` has a case for each of the indices 0 to 51: these are all the productions there are. -/
theorem productions_have_lengths : Gen.Grammar.productions.length = 52 := by decide

/-- Leading blanks and tabs never change the token list. -/
theorem lex_skip_blank (fuel : Nat) (s : List Char) : lexAll (fuel + 1) (' ' :: s) = lexAll fuel s :=
  rfl

theorem lex_skip_tab (fuel : Nat) (s : List Char) : lexAll (fuel + 1) ('\t' :: s) = lexAll fuel s :=
  rfl

/-- All upper/lower-case spellings of a word. -/
def caseVariants : List Char → List (List Char)
  | [] => [[]]
  | c :: cs => (caseVariants cs).flatMap fun r => [c.toUpper :: r, c.toLower :: r]

theorem span_all {p : Char → Bool} : ∀ {l : List Char}, (∀ x ∈ l, p x = true) → span p l = (l, [])
  | [], _ => rfl
  | c :: cs, h => by
    simp only [span, h c List.mem_cons_self, if_true, span_all fun x hx => h x (List.mem_cons_of_mem _ hx)]

theorem upper_ofList (a : List Char) : upper (String.ofList a) = String.ofList (a.map Char.toUpper) := by
  simp [upper, String.map_eq_internal]

theorem alpha_not_digit {c : Char} (hc : isAlpha_ c = true) : isDigit c = false := by
  simp only [isAlpha_, isDigit, Bool.or_eq_true, Bool.and_eq_true, decide_eq_true_eq, beq_iff_eq, Char.le_def,
    UInt32.le_iff_toNat_le, Bool.and_eq_false_iff, decide_eq_false_iff_not] at hc ⊢
  rcases hc with (h | h) | rfl
  · have : ('a' : Char).val.toNat = 97 := rfl
    have : ('9' : Char).val.toNat = 57 := rfl
    omega
  · have : ('A' : Char).val.toNat = 65 := rfl
    have : ('9' : Char).val.toNat = 57 := rfl
    omega
  · decide

/-- **Keywords are recognised whatever their spelling**: a word of identifier characters whose upper-case form is
reserved is one token, the keyword. -/
theorem step_reserved {c : Char} {cs : List Char} {w : String} (hc : isAlpha_ c = true)
    (hcs : ∀ x ∈ cs, isAlnum_ x = true) (hw : String.ofList ((c :: cs).map Char.toUpper) = w)
    (hr : reserved.contains w = true) : step (c :: cs) = .tok ⟨w, w⟩ [] := by
  -- a letter is none of the characters the rules before `t_SIMPLE_IDENTIFIER` start with
  have hne : ∀ d : Char, isAlpha_ d = false → c ≠ d := by
    rintro d hd rfl; rw [hd] at hc; cases hc
  have hdig := alpha_not_digit hc
  have hid : ident (c :: cs) = some (c :: cs, []) := by simp only [ident, hc, if_true, span_all hcs]
  have htime : timeLit (c :: cs) = none := by
    unfold timeLit; split
    · rename_i heq; cases heq; exact absurd (hcs '\'' List.mem_cons_self) (by decide)
    · rfl
  have hstr : strLit (c :: cs) = none := by simp [strLit, hne '\'' (by decide)]
  have hrange : range (c :: cs) = none := by simp [range, signedInt, span, hdig, hne '-' (by decide)]
  have hnum : numeric (c :: cs) = none := by simp [numeric, span, hdig, hne '.' (by decide)]
  have hq : qualified (c :: cs) = none := by simp only [qualified, hid]
  have hs : simple (c :: cs) = some (⟨w, w⟩, []) := by simp only [simple, hid, upper_ofList, hw, hr, if_true]
  simp [step, tokenAt, htime, hstr, hrange, hnum, hq, hs, hne ' ' (by decide), hne '\t' (by decide), hne '\n' (by decide)]

/-- **Keyword case-insensitivity, exhaustively**: each of the 4+4+8+8+256 spellings of
IN / OR / AND / NOT / OVERLAPS lexes to exactly the keyword token. -/
theorem keyword_case_all :
    ∀ w ∈ ["IN", "OR", "AND", "NOT", "OVERLAPS"], ∀ v ∈ caseVariants w.toList,
      step v = .tok ⟨w, w⟩ [] := by
  -- what `step_reserved` asks of a spelling is about lists of characters, and evaluated for all 280
  have h : ∀ w ∈ ["IN", "OR", "AND", "NOT", "OVERLAPS"], ∀ v ∈ caseVariants w.toList,
      (reserved.contains w && v.map Char.toUpper == w.toList &&
        match v with
        | c :: cs => isAlpha_ c && cs.all isAlnum_
        | [] => false) = true := by decide +kernel
  intro w hw v hv
  have := h w hw v hv
  match v with
  | c :: cs =>
    simp only [Bool.and_eq_true, beq_iff_eq, List.all_eq_true] at this
    exact step_reserved this.2.1 this.2.2 (by rw [this.1.2, String.ofList_toList]) this.1.1
  | [] => simp at this

/-- …and a keyword followed by identifier characters is an ordinary identifier. -/
theorem keyword_prefix_is_identifier :
    step "NOTa".toList = .tok ⟨"SIMPLE_IDENTIFIER", "NOTa"⟩ [] ∧
    step "inx".toList = .tok ⟨"SIMPLE_IDENTIFIER", "inx"⟩ [] ∧
    step "ORe".toList = .tok ⟨"SIMPLE_IDENTIFIER", "ORe"⟩ [] := by decide +kernel

/-- Documented literal values of range literals (inclusive bounds, optional stride, blanks allowed
around `..` and `:`; a zero stride is not part of the literal). -/
theorem range_literal_values :
    step "1..5".toList = .tok ⟨"RANGE_LITERAL", "1,5,None"⟩ [] ∧
    step "-3 .. -1 : 2".toList = .tok ⟨"RANGE_LITERAL", "-3,-1,2"⟩ [] ∧
    step "1..5:0".toList = .tok ⟨"RANGE_LITERAL", "1,5,None"⟩ ":0".toList := by decide +kernel

/-- **F obligation**: the table checks of `Model/LR.lean`, on the tables extracted from the code that
is there now.  The kernel evaluates them in the form `LR.tablesCheck` (`Lemmas/LRTables.lean`). -/
theorem lr_tables_wellformed : LR.TablesOK := LR.tablesOK_of_check (by decide +kernel)

/-- the right-hand sides used by those checks are the ones spelled in the production texts that
`productions_expected` compares with the expected ones -/
theorem lr_productions_coherent : LR.prodsCoherent = true := by decide +kernel

/-- From a stack that is a path of the automaton, whatever the remaining input and however long the
driver runs, the outcome is a value of the shape of `input` or a user-facing error. -/
theorem run_outcomes (fuel : Nat) (ps : Parser.PState) (h : LR.Good ps.states ps.vals) :
    LR.Documented (Parser.run fuel ps) :=
  LR.run_documented lr_tables_wellformed fuel ps h

/-- **Rejection is clean, for every string**: parsing yields a tree, the empty expression, a lexer
error, a syntax error (in the middle or at the end of the input), the `ValueError` of a malformed
`POINT`, or (model only) exhausted fuel — never an internal error of the LR machinery. -/
theorem parse_outcomes (s : String) :
    (∃ n, Parser.parse s = .ok (some n)) ∨ Parser.parse s = .ok none ∨
    Parser.parse s = .error .lex ∨ Parser.parse s = .error .parse ∨ Parser.parse s = .error .eof ∨
    Parser.parse s = .error .value ∨ Parser.parse s = .error (.internal "parser fuel") := by
  have h := run_outcomes (20 * s.length + 100)
    { states := [0], vals := [], la := none, input := s.toList } LR.Good.base
  unfold Parser.parse
  generalize Parser.run (20 * s.length + 100) { states := [0], vals := [], la := none, input := s.toList } = r at h
  match r, h with
  | .ok (.node n), _ => exact Or.inl ⟨n, rfl⟩
  | .ok .none, _ => exact Or.inr (Or.inl rfl)
  | .ok (.tok _), h => cases h
  | .ok (.list _), h => cases h
  | .error .lex, _ => exact .inr (.inr (.inl rfl))
  | .error .parse, _ => exact .inr (.inr (.inr (.inl rfl)))
  | .error .eof, _ => exact .inr (.inr (.inr (.inr (.inl rfl))))
  | .error .value, _ => exact .inr (.inr (.inr (.inr (.inr (.inl rfl)))))
  | .error (.internal m), h =>
    cases (h : m = "parser fuel")
    exact .inr (.inr (.inr (.inr (.inr (.inr rfl)))))

/-- non-vacuity: the outcomes other than fuel exhaustion all occur -/
example : (match Parser.parse "a = 1 AND b IN (1, 2)" with | .ok (some _) => true | _ => false) = true := by decide +kernel
example : (match Parser.parse "" with | .ok none => true | _ => false) = true := by decide +kernel
example : (match Parser.parse "a ? 1" with | .error .lex => true | _ => false) = true := by decide +kernel
example : (match Parser.parse "a = = 1" with | .error .parse => true | _ => false) = true := by decide +kernel
example : (match Parser.parse "a =" with | .error .eof => true | _ => false) = true := by decide +kernel
example : (match Parser.parse "POINT(1)" with | .error .value => true | _ => false) = true := by decide +kernel

end C14
