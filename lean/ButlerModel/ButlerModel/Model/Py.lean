/-! Python built-ins used by translated code (`translate/py2lean.py`). Core Lean only. -/
namespace Py

/-- `max(*xs)` for a non-empty list (Python raises on an empty one; callers guard). -/
def maxL : List Int → Int
  | [] => 0
  | x :: xs => xs.foldl max x

/-- `min(*xs)` for a non-empty list. -/
def minL : List Int → Int
  | [] => 0
  | x :: xs => xs.foldl min x

theorem foldl_max_le_iff (xs : List Int) (a z : Int) : xs.foldl max a ≤ z ↔ a ≤ z ∧ ∀ x ∈ xs, x ≤ z := by
  induction xs generalizing a with
  | nil => simp
  | cons y ys ih => simp only [List.foldl_cons, ih, Int.max_le, List.forall_mem_cons, and_assoc]

theorem le_foldl_min_iff (xs : List Int) (a z : Int) : z ≤ xs.foldl min a ↔ z ≤ a ∧ ∀ x ∈ xs, z ≤ x := by
  induction xs generalizing a with
  | nil => simp
  | cons y ys ih => simp only [List.foldl_cons, ih, Int.le_min, List.forall_mem_cons, and_assoc]

-- on `Int`, `z < x` unfolds to `z + 1 ≤ x`
theorem lt_foldl_min_iff (xs : List Int) (a z : Int) : z < xs.foldl min a ↔ z < a ∧ ∀ x ∈ xs, z < x :=
  le_foldl_min_iff xs a (z + 1)

/-! ### `collections.defaultdict(list)` with natural-number keys and values: an association list in insertion order -/

abbrev Groups := List (Nat × List Nat)

/-- `d[k].append(v)` -/
def groupAppend : Groups → Nat → Nat → Groups
  | [], k, v => [(k, [v])]
  | (k', vs) :: rest, k, v => if k' = k then (k', vs ++ [v]) :: rest else (k', vs) :: groupAppend rest k v

/-- `list(d.keys())` -/
def groupKeys (g : Groups) : List Nat := g.map (·.1)

/-- `d[k]` (for a key that is present; `[]` otherwise — the translated code only asks for keys it took from `d`) -/
def groupGet : Groups → Nat → List Nat
  | [], _ => []
  | (k', vs) :: rest, k => if k' = k then vs else groupGet rest k

/-- `s.add(x)` for a set kept as a list without repetition -/
def setAdd (l : List Nat) (x : Nat) : List Nat := if l.contains x then l else l ++ [x]

theorem setAdd_len (l : List Nat) (x : Nat) : (setAdd l x).length = if x ∈ l then l.length else l.length + 1 := by
  unfold setAdd
  split <;> simp_all

theorem setAdd_mem (l : List Nat) (x y : Nat) : y ∈ setAdd l x ↔ y ∈ l ∨ y = x := by
  unfold setAdd
  split
  · exact ⟨.inl, fun h => h.elim id fun h => h ▸ List.contains_iff_mem.mp ‹_›⟩
  · simp

end Py
