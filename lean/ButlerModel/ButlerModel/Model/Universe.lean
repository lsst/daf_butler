/-! Model of the dimension universe and of `DimensionGroup` (`dimensions/_group.py`).
Elements are numbered by their position in universe order (`DimensionUniverse.sorted`).
Core Lean only. -/
namespace Dim

structure Elem where
  isDim : Bool
  /-- required dimensions other than the element itself (element indices) -/
  req : List Nat
  /-- implied dimensions, in the iteration order of `element.implied` -/
  imp : List Nat
  deriving DecidableEq, Repr, Inhabited

abbrev Universe := List Elem

def elemAt (U : Universe) (k : Nat) : Elem := U.getD k ⟨false, [], []⟩
def deps (U : Universe) (k : Nat) : List Nat := (elemAt U k).req ++ (elemAt U k).imp

/-- Well-formedness (decidable): every dependency points to an earlier element (so the
dependency graph is acyclic and universe order is topological), dependencies are dimensions,
and required ∩ implied = ∅. -/
def wfB (U : Universe) : Bool :=
  (List.range U.length).all fun k =>
    (deps U k).all (fun j => decide (j < k) && (elemAt U j).isDim) &&
    (elemAt U k).req.all (fun j => !(elemAt U k).imp.contains j)

/-- A set of element indices as a characteristic function. -/
abbrev NSet := Nat → Bool

/-- One downward sweep: visit indices `k-1, …, 0`; whenever an index is in the set, add its
dependencies.  Because dependencies point downwards this computes the least closed superset. -/
def sweep (U : Universe) : Nat → NSet → NSet
  | 0, m => m
  | k + 1, m => sweep U k (if m k then (fun j => m j || (deps U k).contains j) else m)

/-- Dependency closure (the set computed by `DimensionGroup.__new__` with `_conform=True`). -/
def closeFn (U : Universe) (m : NSet) : NSet := sweep U U.length m

def ofList (s : List Nat) : NSet := fun i => s.contains i
def toList (U : Universe) (m : NSet) : List Nat := (List.range U.length).filter m

/-- `DimensionGroup(universe, names).names` as a sorted index list. -/
def close (U : Universe) (s : List Nat) : List Nat := toList U (closeFn U (ofList s))

/-- List-based sweep: the executable form used by the driver (`closeFast_eq` proves it equal). -/
def sweepL (U : Universe) : Nat → List Nat → List Nat
  | 0, s => s
  | k + 1, s => sweepL U k (if s.contains k then deps U k ++ s else s)

def closeFast (U : Universe) (s : List Nat) : List Nat :=
  let r := sweepL U U.length s
  (List.range U.length).filter fun i => r.contains i

theorem sweepL_eq (U : Universe) (k : Nat) (s : List Nat) (i : Nat) :
    (sweepL U k s).contains i = sweep U k (ofList s) i := by
  induction k generalizing s with
  | zero => rfl
  | succ k ih =>
    unfold sweepL sweep
    rw [ih]
    congr 1
    unfold ofList
    split
    · funext j
      simp only [List.contains_eq_mem, List.mem_append, Bool.decide_or, Bool.or_comm]
    · rfl

theorem closeFast_eq (U : Universe) (s : List Nat) : closeFast U s = close U s :=
  congrArg (List.filter · (List.range U.length)) (funext (sweepL_eq U U.length s))

def Closed (U : Universe) (m : NSet) : Prop := ∀ k, m k = true → ∀ j ∈ deps U k, m j = true

/-- `required`: members that no member implies. -/
def required (U : Universe) (g : List Nat) : List Nat :=
  g.filter fun d => !(g.any fun d' => (elemAt U d').imp.contains d)
/-- `implied`: members some member implies. -/
def implied (U : Universe) (g : List Nat) : List Nat :=
  g.filter fun d => g.any fun d' => (elemAt U d').imp.contains d

/-- `elements`: every universe element whose required dimensions (itself included, for a
dimension) are all in the group. -/
def elements (U : Universe) (g : List Nat) : List Nat :=
  (List.range U.length).filter fun e =>
    ((elemAt U e).req.all fun r => g.contains r) && (!(elemAt U e).isDim || g.contains e)

/-- `lookup_order`'s inner recursive function `add_to_order` (state = (done, order)). -/
def addToOrder (U : Universe) : Nat → Nat → (List Nat × List Nat) → (List Nat × List Nat)
  | 0, _, s => s
  | fuel + 1, e, (done, order) =>
    if done.contains e then (done, order)
    else if !((elemAt U e).req.all fun r => done.contains r) then (done, order)
    else (elemAt U e).imp.foldl (fun s o => addToOrder U fuel o s) (e :: done, order ++ [e])

/-- `lookup_order`'s `while not done.issuperset(self.required)` loop. -/
def lookupLoop (U : Universe) (req : List Nat) : Nat → (List Nat × List Nat) → (List Nat × List Nat)
  | 0, s => s
  | fuel + 1, s =>
    if req.all (fun r => s.1.contains r) then s
    else lookupLoop U req fuel (req.foldl (fun s d => addToOrder U (U.length + 1) d s) s)

/-- `DimensionGroup.lookup_order`. -/
def lookupOrder (U : Universe) (g : List Nat) : List Nat :=
  let s := lookupLoop U (required U g) (U.length + 1) ([], [])
  s.2 ++ (elements U g).filter (fun e => !s.1.contains e)

/-- The nondeterministic worklist of `DimensionGroup.__new__` (Python pops from a `set` in
unspecified order): `choose` picks which pending name is popped. State = (to_expand, names). -/
def worklist (U : Universe) (choose : List Nat → Nat) : Nat → (List Nat × List Nat) → Option (List Nat)
  | 0, (te, names) => if te.isEmpty then some names else none
  | fuel + 1, (te, names) =>
    if te.isEmpty then some names
    else
      let d := choose te
      let names' := d :: names
      let te' := (te ++ deps U d).filter (fun x => !names'.contains x)
      worklist U choose fuel (te', names')

def renderList (l : List Nat) : String := ",".intercalate (l.map toString)


/-! ### comparison of groups (`DimensionGroup.__le__` … `__gt__`, `issubset`, `issuperset`, `isdisjoint`):
the subset order of the name sets -/
def subsetB (a b : List Nat) : Bool := a.all fun x => b.contains x
def leB (a b : List Nat) : Bool := subsetB a b
def geB (a b : List Nat) : Bool := subsetB b a
def eqB (a b : List Nat) : Bool := subsetB a b && subsetB b a
def ltB (a b : List Nat) : Bool := subsetB a b && !subsetB b a
def gtB (a b : List Nat) : Bool := subsetB b a && !subsetB a b
def disjointB (a b : List Nat) : Bool := a.all fun x => !b.contains x

end Dim
