/-! Kleene three-valued logic (SQL's truth values). Core Lean only. -/
inductive K3 where
  | tt | ff | nn
  deriving DecidableEq, Repr, Inhabited

namespace K3
def and3 : K3 → K3 → K3
  | .ff, _ => .ff
  | _, .ff => .ff
  | .tt, .tt => .tt
  | _, _ => .nn
def or3 : K3 → K3 → K3
  | .tt, _ => .tt
  | _, .tt => .tt
  | .ff, .ff => .ff
  | _, _ => .nn
def not3 : K3 → K3
  | .tt => .ff
  | .ff => .tt
  | .nn => .nn
def render : K3 → String
  | .tt => "T" | .ff => "F" | .nn => "N"
def ofChar : Char → K3
  | 'T' => .tt | 'F' => .ff | _ => .nn

@[simp] theorem and3_t_left (a : K3) : and3 .tt a = a := by cases a <;> rfl

@[simp] theorem and3_t_right (a : K3) : and3 a .tt = a := by cases a <;> rfl

@[simp] theorem and3_f_left (a : K3) : and3 .ff a = .ff := by cases a <;> rfl

@[simp] theorem and3_f_right (a : K3) : and3 a .ff = .ff := by cases a <;> rfl

@[simp] theorem or3_f_left (a : K3) : or3 .ff a = a := by cases a <;> rfl

@[simp] theorem or3_f_right (a : K3) : or3 a .ff = a := by cases a <;> rfl

@[simp] theorem or3_t_left (a : K3) : or3 .tt a = .tt := by cases a <;> rfl

@[simp] theorem or3_t_right (a : K3) : or3 a .tt = .tt := by cases a <;> rfl

theorem and3_comm (a b : K3) : and3 a b = and3 b a := by cases a <;> cases b <;> rfl

theorem or3_comm (a b : K3) : or3 a b = or3 b a := by cases a <;> cases b <;> rfl

theorem and3_assoc (a b c : K3) : and3 (and3 a b) c = and3 a (and3 b c) := by
  cases a <;> cases b <;> cases c <;> rfl

theorem or3_assoc (a b c : K3) : or3 (or3 a b) c = or3 a (or3 b c) := by
  cases a <;> cases b <;> cases c <;> rfl

theorem or3_and3_distrib_left (a b c : K3) : or3 a (and3 b c) = and3 (or3 a b) (or3 a c) := by
  cases a <;> cases b <;> cases c <;> rfl

theorem or3_and3_distrib_right (a b c : K3) : or3 (and3 a b) c = and3 (or3 a c) (or3 b c) := by
  rw [or3_comm, or3_and3_distrib_left, or3_comm c a, or3_comm c b]

theorem and3_or3_distrib_left (a b c : K3) : and3 a (or3 b c) = or3 (and3 a b) (and3 a c) := by
  cases a <;> cases b <;> cases c <;> rfl

theorem and3_or3_distrib_right (a b c : K3) : and3 (or3 a b) c = or3 (and3 a c) (and3 b c) := by
  rw [and3_comm, and3_or3_distrib_left, and3_comm c a, and3_comm c b]

theorem not3_and3 (a b : K3) : not3 (and3 a b) = or3 (not3 a) (not3 b) := by
  cases a <;> cases b <;> rfl

theorem not3_or3 (a b : K3) : not3 (or3 a b) = and3 (not3 a) (not3 b) := by
  cases a <;> cases b <;> rfl

@[simp] theorem not3_not3 (a : K3) : not3 (not3 a) = a := by cases a <;> rfl

end K3
